import RzmqModel.Audit.C01
import RzmqModel.Audit.C02
import RzmqModel.Audit.C03
import RzmqModel.Audit.C04
import RzmqModel.Audit.C05
import RzmqModel.Audit.C06
import RzmqModel.Audit.C07
import RzmqModel.Audit.C08
import RzmqModel.Audit.C09
import RzmqModel.Audit.C10
import RzmqModel.Audit.C11
import RzmqModel.Audit.C12
import RzmqModel.Audit.C13
import RzmqModel.Audit.C14
import RzmqModel.Audit.C15
import RzmqModel.Audit.C16
import RzmqModel.Audit.C17
import RzmqModel.Audit.C18
import RzmqModel.Audit.C19
import RzmqModel.Audit.C20
/-! The whole development: the property theorems `Props/C01` .. `C20` with everything they rest on, and for each the audit
of its axioms (`Audit/Cxx.lean`, written by the checks: one `#print axioms` per property theorem). -/
