import RzmqModel.Model.Dealer
/-!
The invariant of the DEALER socket as the code has it (`goodDealer`): the line is the acceptance log.  What a refused
send means and that the line can always be drained hold for every configuration.
-/
namespace Rzmq

def goodDealer : DealerCfg := { queuesBehindBacklog := true, requeuesAtFront := true }

/-- `bound`: SNDHWM in the queue plus the one message in the processor's hand -/
structure Dealer.Inv (d : Dealer) : Prop where
  line : d.line = d.accepted
  count : d.backlog = d.pending.length + d.hand.toList.length
  bound : d.pending.length + d.hand.toList.length ≤ max d.hwm 1 + 1
  handLe : d.hand.toList.length ≤ 1

theorem Dealer.inv_init (cap hwm : Nat) : ({ cap := cap, hwm := hwm } : Dealer).Inv :=
  ⟨by simp [Dealer.line], by simp, by simp, by simp⟩

theorem Dealer.queueOrRefuse_inv (d : Dealer) (m : Nat) (h : d.Inv) : (d.queueOrRefuse m).Inv := by
  fun_cases Dealer.queueOrRefuse d m with
  | case1 hlt =>
    exact ⟨by simp [Dealer.line, ← h.line], by simp [h.count, Nat.add_right_comm],
      Nat.add_le_add (List.length_append ▸ hlt) h.handLe, h.handLe⟩
  | case2 => exact ⟨h.line, h.count, h.bound, h.handLe⟩

/-- every event moves one message one station along the line, or appends a new one to the line and the log -/
theorem Dealer.step_inv (d : Dealer) (e : DealerEv) (h : d.Inv) : (Dealer.step goodDealer d e).Inv := by
  have ⟨hl, hc, hb, hh⟩ := h
  unfold Dealer.line at hl
  -- the branches of `Dealer.step` in source order: 1-3 send (behind the backlog, into the pipe, pipe full), 4-5 pop,
  -- 6-9 hand-over (nothing held, done, back to the front, to the back), 10-11 take
  fun_cases Dealer.step goodDealer d e with
  | case1 m | case3 m => exact d.queueOrRefuse_inv m h
  | case2 m hz _ =>
    -- the counter is 0, so nothing is pending and the processor's hand is empty: the pipe is the end of the line
    have hz : d.backlog = 0 := by simpa [goodDealer] using hz
    have hp : d.pending = [] := List.eq_nil_of_length_eq_zero (by omega)
    have hn : d.hand.toList = [] := List.eq_nil_of_length_eq_zero (by omega)
    exact ⟨by simp [Dealer.line, ← hl, hp, hn], hc, hb, hh⟩
  | case4 m rest hp hn =>
    rw [hp, hn] at hl hc hb
    exact ⟨by simp [Dealer.line, ← hl], by simp [hc], by simpa using hb, Option.length_toList_le⟩
  | case7 m hn _ =>
    rw [hn] at hl hc hb
    exact ⟨by simp [Dealer.line, ← hl], by simp [hc], by simpa using Nat.le_of_succ_le hb, Option.length_toList_le⟩
  | case8 m hn _ _ =>
    rw [hn] at hl hc hb
    exact ⟨by simp [Dealer.line, ← hl], by simp [hc], by simpa using hb, Option.length_toList_le⟩
  | case9 m hn _ hr => exact absurd rfl hr
  | case11 m rest hq => exact ⟨by simp [Dealer.line, ← hl, hq], hc, hb, hh⟩
  | _ => exact h

theorem Dealer.run_inv (d : Dealer) (evs : List DealerEv) (h : d.Inv) : (Dealer.run goodDealer d evs).Inv :=
  List.foldlRecOn (motive := Dealer.Inv) evs (Dealer.step goodDealer) h fun t ht e _ => t.step_inv e ht

theorem Dealer.reachable_inv {c : DealerCfg} (hc : c = goodDealer) (cap hwm : Nat) (evs : List DealerEv) :
    (Dealer.run c { cap := cap, hwm := hwm } evs).Inv :=
  hc ▸ Dealer.run_inv _ evs (Dealer.inv_init cap hwm)

/-- the wire (what the session has taken) is a prefix of the acceptance log -/
theorem Dealer.Inv.delivered_prefix {d : Dealer} (h : d.Inv) : d.delivered <+: d.accepted := by
  rw [← h.line]
  simp only [Dealer.line, List.append_assoc]
  exact List.prefix_append _ _

theorem Dealer.step_params (c : DealerCfg) (d : Dealer) (e : DealerEv) :
    (Dealer.step c d e).hwm = d.hwm ∧ (Dealer.step c d e).cap = d.cap := by
  have hq : ∀ m, (d.queueOrRefuse m).hwm = d.hwm ∧ (d.queueOrRefuse m).cap = d.cap := by
    intro m
    unfold Dealer.queueOrRefuse
    split <;> exact ⟨rfl, rfl⟩
  fun_cases Dealer.step c d e
  case case1 | case3 => exact hq _
  all_goals exact ⟨rfl, rfl⟩

theorem Dealer.run_params (c : DealerCfg) (d : Dealer) (evs : List DealerEv) :
    (Dealer.run c d evs).hwm = d.hwm ∧ (Dealer.run c d evs).cap = d.cap :=
  List.foldlRecOn (motive := fun t : Dealer => t.hwm = d.hwm ∧ t.cap = d.cap) evs (Dealer.step c) ⟨rfl, rfl⟩
    fun t ht e _ => ⟨(t.step_params c e).1.trans ht.1, (t.step_params c e).2.trans ht.2⟩

theorem Dealer.queueOrRefuse_refused (d : Dealer) (m : Nat) (h : (d.queueOrRefuse m).accepted = d.accepted) :
    d.queueOrRefuse m = { d with refused := d.refused ++ [m] } ∧ max d.hwm 1 ≤ d.pending.length := by
  unfold Dealer.queueOrRefuse at h ⊢
  split
  · rename_i hlt
    simp [hlt] at h
  · exact ⟨rfl, by omega⟩

/-- a send that leaves the acceptance log alone was refused -/
theorem Dealer.send_refused (c : DealerCfg) (d : Dealer) (m : Nat)
    (h : (Dealer.step c d (.send m)).accepted = d.accepted) :
    Dealer.step c d (.send m) = { d with refused := d.refused ++ [m] }
    ∧ max d.hwm 1 ≤ d.pending.length ∧ (max d.cap 1 ≤ d.pipe.length ∨ 0 < d.backlog) := by
  simp only [Dealer.step] at h ⊢
  split at h
  · rename_i hb
    rw [if_pos hb]
    have ⟨h1, h2⟩ := d.queueOrRefuse_refused m h
    simp only [Bool.and_eq_true, decide_eq_true_eq] at hb
    exact ⟨h1, h2, Or.inr hb.2⟩
  · rename_i hb
    rw [if_neg hb]
    split at h
    · simp at h
    · rename_i hp
      rw [if_neg hp]
      have ⟨h1, h2⟩ := d.queueOrRefuse_refused m h
      exact ⟨h1, h2, Or.inl (by omega)⟩

def DealerEv.isSend : DealerEv → Bool
  | .send _ => true
  | _ => false

/-- the steps still needed to put everything on the wire: a pending message is popped, handed over and taken (3), the one in
the processor's hand is handed over and taken (2), a message in the pipe is taken (1) -/
def Dealer.todo (d : Dealer) : Nat := 3 * d.pending.length + 2 * d.hand.toList.length + d.pipe.length

theorem Dealer.drain_step (c : DealerCfg) (d : Dealer) (h : 0 < d.todo) :
    ∃ e : DealerEv, e.isSend = false ∧ (Dealer.step c d e).todo + 1 = d.todo ∧ (Dealer.step c d e).line = d.line := by
  -- the session takes from the pipe; else the processor hands over what it holds (the pipe is empty, so this
  -- succeeds); else it pops
  unfold Dealer.todo at h
  cases hq : d.pipe with
  | cons m rest =>
    refine ⟨.sessionTake, rfl, ?_, by simp [Dealer.step, Dealer.line, hq]⟩
    simp only [Dealer.step, Dealer.todo, hq, List.length_cons]
    omega
  | nil =>
    cases hh : d.hand with
    | some m =>
      have : 0 < max d.cap 1 := by omega
      exact ⟨.procRoute, rfl, by simp [Dealer.step, Dealer.todo, hq, hh, this],
        by simp [Dealer.step, Dealer.line, hq, hh, this]⟩
    | none =>
      cases hp : d.pending with
      | nil => simp [hq, hh, hp] at h
      | cons m rest =>
        refine ⟨.procPop, rfl, ?_, by simp [Dealer.step, Dealer.line, hq, hh, hp]⟩
        simp only [Dealer.step, Dealer.todo, hq, hh, hp, List.length_cons, Option.toList_some, Option.toList_none,
          List.length_nil]
        omega

theorem Dealer.drain_exists (c : DealerCfg) (n : Nat) : ∀ d : Dealer, d.todo = n →
    ∃ evs : List DealerEv, (∀ e ∈ evs, e.isSend = false) ∧ evs.length = n ∧ (Dealer.run c d evs).delivered = d.line := by
  induction n with
  | zero =>
    intro d hn
    unfold Dealer.todo at hn
    have hp : d.pending = [] := List.eq_nil_of_length_eq_zero (by omega)
    have hh : d.hand.toList = [] := List.eq_nil_of_length_eq_zero (by omega)
    have hq : d.pipe = [] := List.eq_nil_of_length_eq_zero (by omega)
    exact ⟨[], by simp, rfl, by simp [Dealer.run, Dealer.line, hp, hh, hq]⟩
  | succ n ih =>
    intro d hn
    obtain ⟨e, he, ht, hl⟩ := d.drain_step c (by omega)
    obtain ⟨evs, h1, h2, h3⟩ := ih (Dealer.step c d e) (by omega)
    exact ⟨e :: evs, by simpa [he] using h1, by simp [h2], h3.trans hl⟩

end Rzmq
