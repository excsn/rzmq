import RzmqModel.Model.Rpq
/-!
The ready-pipe queue (C08, C09).  The invariant counts tasks by what their pc says, so a count is written as a sum of
indicators `b2i` over the task list, and a step, which rewrites the pc of one named task by a `List.map` (`setTask`),
changes such a sum by the difference of two summands (`sum_map_update`).  The equations of `pipe?`, `setPipe`,
`setTask`, `pushReady` and `cancel` are what the proofs use instead of unfolding them.  The `Notify` wait model has one
invariant, `WaitSt.Safe`, kept by a poll and by the signal: with the condition true it makes the next poll end the wait.
-/
namespace Rzmq

def b2i (b : Bool) : Int := if b then 1 else 0

@[simp] theorem b2i_true : b2i true = 1 := rfl
@[simp] theorem b2i_false : b2i false = 0 := rfl
theorem b2i_nonneg (b : Bool) : 0 ≤ b2i b := by cases b <;> simp
theorem b2i_le_one (b : Bool) : b2i b ≤ 1 := by cases b <;> simp

theorem filter_length_eq_sum {α : Type} (l : List α) (f : α → Bool) :
    ((l.filter f).length : Int) = (l.map fun e => b2i (f e)).sum := by
  induction l with
  | nil => rfl
  | cons a l ih =>
    cases h : f a <;> simp [h, ← ih]
    omega

theorem sum_nonneg_of_forall (l : List Int) (h : ∀ x ∈ l, 0 ≤ x) : 0 ≤ l.sum := by
  induction l with
  | nil => simp
  | cons a l ih =>
    rw [List.forall_mem_cons] at h
    have := ih h.2
    simp
    omega

theorem sum_map_eq_zero {α : Type} (l : List α) (g : α → Int) (h : ∀ e ∈ l, g e = 0) : (l.map g).sum = 0 := by
  induction l with
  | nil => rfl
  | cons a l ih =>
    rw [List.forall_mem_cons] at h
    simp [h.1, ih h.2]

theorem map_update_of_not_mem (l : List (String × Pc)) (t : String) (pc' : Pc) (h : t ∉ l.map (·.1)) :
    (l.map fun e => if e.1 == t then (t, pc') else e) = l := by
  conv =>
    rhs
    rw [← List.map_id l]
  refine List.map_congr_left fun a ha => ?_
  simp [show a.1 ≠ t from fun e => h (e ▸ List.mem_map_of_mem ha)]

theorem sum_map_update (l : List (String × Pc)) (t : String) (pc pc' : Pc) (g : Pc → Int)
    (hnd : (l.map (·.1)).Nodup) (h : (l.find? (·.1 == t)).map (·.2) = some pc) :
    ((l.map fun e => if e.1 == t then (t, pc') else e).map fun e => g e.2).sum
      = (l.map fun e => g e.2).sum - g pc + g pc' := by
  induction l with
  | nil => simp at h
  | cons a l ih =>
    rw [List.map_cons, List.nodup_cons] at hnd
    by_cases h1 : a.1 = t
    · -- `a` is the task; the names are distinct, so the rest is untouched
      simp [h1] at h
      simp only [List.map_cons, map_update_of_not_mem l t pc' (h1 ▸ hnd.1)]
      simp [h1, ← h]
      omega
    · simp [h1] at h
      simp only [List.map_cons, List.sum_cons, ih hnd.2 (by simpa using h)]
      simp [h1]
      omega

theorem names_map_update (l : List (String × Pc)) (t : String) (pc' : Pc) :
    (l.map fun e => if e.1 == t then (t, pc') else e).map (·.1) = l.map (·.1) := by
  rw [List.map_map]
  refine List.map_congr_left fun a _ => ?_
  by_cases h1 : a.1 = t <;> simp [h1]

theorem mem_map_update (l : List (String × Pc)) (t : String) (pc' : Pc) (e : String × Pc)
    (he : e ∈ l.map fun e => if e.1 == t then (t, pc') else e) : e = (t, pc') ∨ e ∈ l := by
  obtain ⟨a, ha, rfl⟩ := List.mem_map.1 he
  by_cases h1 : a.1 = t <;> simp [h1, ha]

theorem RpqSt.task?_mem (s : RpqSt) (t : String) (pc : Pc) (h : s.task? t = some pc) : (t, pc) ∈ s.tasks := by
  obtain ⟨⟨a, b⟩, he, rfl⟩ := Option.map_eq_some_iff.1 h
  have := List.find?_some he
  simp at this
  exact this ▸ List.mem_of_find?_eq_some he

@[simp] theorem RpqSt.setTask_tasks (s : RpqSt) (t : String) (pc : Pc) :
    (s.setTask t pc).tasks = s.tasks.map fun e => if e.1 == t then (t, pc) else e := rfl
@[simp] theorem RpqSt.setTask_pipes (s : RpqSt) (t : String) (pc : Pc) : (s.setTask t pc).pipes = s.pipes := rfl
@[simp] theorem RpqSt.setTask_ready (s : RpqSt) (t : String) (pc : Pc) : (s.setTask t pc).ready = s.ready := rfl
@[simp] theorem RpqSt.setTask_readyCap (s : RpqSt) (t : String) (pc : Pc) : (s.setTask t pc).readyCap = s.readyCap := rfl
@[simp] theorem RpqSt.setTask_accepted (s : RpqSt) (t : String) (pc : Pc) : (s.setTask t pc).accepted = s.accepted := rfl
@[simp] theorem RpqSt.setTask_takenLog (s : RpqSt) (t : String) (pc : Pc) : (s.setTask t pc).takenLog = s.takenLog := rfl
@[simp] theorem RpqSt.setTask_pipe? (s : RpqSt) (t : String) (pc : Pc) (p : Nat) : (s.setTask t pc).pipe? p = s.pipe? p := rfl

@[simp] theorem RpqSt.setPipe_tasks (s : RpqSt) (ps : PipeSt) : (s.setPipe ps).tasks = s.tasks := rfl
@[simp] theorem RpqSt.setPipe_pipes (s : RpqSt) (ps : PipeSt) :
    (s.setPipe ps).pipes = s.pipes.map fun q => if q.id == ps.id then ps else q := rfl
@[simp] theorem RpqSt.setPipe_ready (s : RpqSt) (ps : PipeSt) : (s.setPipe ps).ready = s.ready := rfl
@[simp] theorem RpqSt.setPipe_readyCap (s : RpqSt) (ps : PipeSt) : (s.setPipe ps).readyCap = s.readyCap := rfl
@[simp] theorem RpqSt.setPipe_accepted (s : RpqSt) (ps : PipeSt) : (s.setPipe ps).accepted = s.accepted := rfl
@[simp] theorem RpqSt.setPipe_takenLog (s : RpqSt) (ps : PipeSt) : (s.setPipe ps).takenLog = s.takenLog := rfl

theorem RpqSt.pushReady_eq (s s' : RpqSt) (p : Nat) (h : s.pushReady p = some s') :
    s' = { s with ready := s.ready ++ [p] } ∧ s.ready.length < s.readyCap := by
  unfold RpqSt.pushReady at h
  split at h
  · next hlt =>
    simp at h
    exact ⟨h.symm, hlt⟩
  · simp at h

theorem RpqSt.pushReady_getD (s : RpqSt) (p : Nat) :
    (s.pushReady p).getD s = s ∨ (s.pushReady p).getD s = { s with ready := s.ready ++ [p] } := by
  unfold RpqSt.pushReady
  split <;> simp

theorem RpqSt.pipe?_some (s : RpqSt) (p : Nat) (ps : PipeSt) (h : s.pipe? p = some ps) : ps ∈ s.pipes ∧ ps.id = p := by
  unfold RpqSt.pipe? at h
  have h1 := List.find?_some h
  have h2 := List.mem_of_find?_eq_some h
  simp at h1
  exact ⟨h2, h1⟩

theorem RpqSt.pipe?_of_mem (s : RpqSt) (q : PipeSt) (hnd : (s.pipes.map (·.id)).Nodup) (hq : q ∈ s.pipes) :
    s.pipe? q.id = some q := by
  unfold RpqSt.pipe?
  generalize s.pipes = l at hnd hq
  induction l with
  | nil => simp at hq
  | cons a l ih =>
    rw [List.map_cons, List.nodup_cons] at hnd
    rcases List.mem_cons.1 hq with rfl | hq'
    · simp
    · have hne : a.id ≠ q.id := fun e => hnd.1 (e ▸ List.mem_map_of_mem hq')
      simp [hne, ih hnd.2 hq']

theorem RpqSt.pipe?_isSome_mem_ids (s : RpqSt) (p : Nat) (h : (s.pipe? p).isSome) : p ∈ s.pipes.map (·.id) := by
  obtain ⟨ps, hps, hid⟩ := List.find?_isSome.1 h
  exact List.mem_map.2 ⟨ps, hps, by simpa using hid⟩

theorem RpqSt.pipe?_of_pipes_map (s s' : RpqSt) (F : PipeSt → PipeSt) (hF : ∀ q, (F q).id = q.id)
    (hp : s'.pipes = s.pipes.map F) (p : Nat) : s'.pipe? p = (s.pipe? p).map F := by
  unfold RpqSt.pipe?
  rw [hp, List.find?_map, show ((fun q : PipeSt => q.id == p) ∘ F) = fun q => q.id == p from funext fun q => by simp [hF]]

theorem RpqSt.setPipe_pipe? (s : RpqSt) (ps' : PipeSt) (p : Nat) :
    (s.setPipe ps').pipe? p = (s.pipe? p).map fun q => if q.id == ps'.id then ps' else q := by
  refine RpqSt.pipe?_of_pipes_map s _ _ (fun q => ?_) rfl p
  by_cases h : q.id = ps'.id <;> simp [h]

theorem RpqSt.pipe?_congr {s s' : RpqSt} (h : s'.pipes = s.pipes) (x : Nat) : s'.pipe? x = s.pipe? x := by
  unfold RpqSt.pipe?
  rw [h]

/-- `setPipe` in the shape in which the model uses it: on a pipe found by `pipe?`, the id kept -/
theorem RpqSt.setPipe_pipe?_of_some (s : RpqSt) (p : Nat) (ps : PipeSt) (hps : s.pipe? p = some ps) (ch : List Nat)
    (q r : Int) (g : Bool) (x : Nat) :
    (s.setPipe { ps with chan := ch, queued := q, reserved := r, registered := g }).pipe? x
      = if x = p then some { ps with chan := ch, queued := q, reserved := r, registered := g } else s.pipe? x := by
  have hpid := (s.pipe?_some p ps hps).2
  rw [RpqSt.setPipe_pipe?]
  split
  · next e => simp [e, hps]
  · next e =>
    cases hq : s.pipe? x with
    | none => rfl
    | some q => simp [(s.pipe?_some x q hq).2, hpid, e]

theorem RpqSt.task?_setTask (s : RpqSt) (t : String) (pc pc' : Pc) (ht : s.task? t = some pc) :
    (s.setTask t pc').task? t = some pc' := by
  obtain ⟨e, he, _⟩ := Option.map_eq_some_iff.1 ht
  have hn : e.1 = t := by simpa using List.find?_some he
  unfold RpqSt.task?
  rw [RpqSt.setTask_tasks, List.find?_map,
    show ((fun e : String × Pc => e.1 == t) ∘ fun e => if e.1 == t then (t, pc') else e) = fun e => e.1 == t from
      funext fun e => by by_cases h : e.1 = t <;> simp [h],
    he]
  simp [hn]

/-- dropping a future changes the pc of its task and, for a `send` parked on a full channel, `reserved` of its pipe -/
theorem RpqSt.cancel_fields (s : RpqSt) (t : String) :
    (s.cancel t).1.ready = s.ready ∧ (s.cancel t).1.accepted = s.accepted ∧ (s.cancel t).1.takenLog = s.takenLog
    ∧ (s.cancel t).1.returned = s.returned
    ∧ ∀ p, ((s.cancel t).1.pipe? p).map (·.chan) = (s.pipe? p).map (·.chan) := by
  unfold RpqSt.cancel
  split
  · exact ⟨rfl, rfl, rfl, rfl, fun _ => rfl⟩
  · split
    · exact ⟨rfl, rfl, rfl, rfl, fun _ => rfl⟩
    · split
      · next ps hps =>
        refine ⟨rfl, rfl, rfl, rfl, fun x => ?_⟩
        simp only [finish, RpqSt.setTask_pipe?, s.setPipe_pipe?_of_some _ ps hps]
        split
        · next e =>
          rw [e, hps]
          rfl
        · rfl
      · exact ⟨rfl, rfl, rfl, rfl, fun _ => rfl⟩
    · exact ⟨rfl, rfl, rfl, rfl, fun _ => rfl⟩

namespace WaitSt

/-- The waiter cannot miss its wake-up: it is at a known pc, it has registered before it checked (so a signal that comes
while it is parked notifies it), and if the condition holds while it is parked it has been notified. -/
structure Safe (w : WaitSt) : Prop where
  pc : w.pc = 0 ∨ w.pc = 1 ∨ w.pc = 2
  reg : w.pc = 1 → w.registered = true
  woken : w.pc = 1 → w.cond = true → w.notified = true

theorem safe_init : Safe {} := ⟨.inl rfl, nofun, nofun⟩

theorem stepRegisterFirst_cond (w : WaitSt) : w.stepRegisterFirst.1.cond = w.cond := by
  fun_cases WaitSt.stepRegisterFirst w <;> rfl

theorem stepRegisterFirst_pc_two (w : WaitSt) :
    w.stepRegisterFirst.1.pc = 2 ↔
      w.pc = 2 ∨ (w.cond = true ∧ (w.pc = 0 ∨ (w.pc = 1 ∧ w.notified = true))) := by
  -- every branch of the poll fixes `pc`, `cond` and `notified`, so both sides evaluate
  fun_cases WaitSt.stepRegisterFirst w <;> simp_all

theorem Safe.step {w : WaitSt} (h : Safe w) : Safe w.stepRegisterFirst.1 := by
  -- the waiter leaves (1, 3), or parks having just seen the condition false (2, 4), or does not move (5, 6)
  fun_cases WaitSt.stepRegisterFirst w with
  | case1 | case3 => exact ⟨.inr (.inr rfl), nofun, nofun⟩
  | case2 _ hc => exact ⟨.inr (.inl rfl), fun _ => rfl, fun _ hc' => absurd hc' hc⟩
  | case4 _ _ hc => exact ⟨h.pc, h.reg, fun _ hc' => absurd hc' hc⟩
  | case5 | case6 => exact h

/-- No lost wake-up: a waiter that is parked has registered before it checked, so the signal notifies it. -/
theorem Safe.signal {w : WaitSt} (h : Safe w) : Safe w.signal :=
  ⟨h.pc, h.reg, fun h1 _ => by simp [WaitSt.signal, h.reg h1]⟩

theorem Safe.poll_done {w : WaitSt} (h : Safe w) (hc : w.cond = true) : w.stepRegisterFirst.1.pc = 2 := by
  rw [stepRegisterFirst_pc_two]
  rcases h.pc with h0 | h1 | h2
  · exact .inr ⟨hc, .inl h0⟩
  · exact .inr ⟨hc, .inr ⟨h1, h.woken h1 hc⟩⟩
  · exact .inl h2

end WaitSt

end Rzmq
