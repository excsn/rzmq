import Lean.Meta.Tactic.Simp.RegisterCommand
/-!
The simp set `own_share`: what a task contributes to the sums of the ready-pipe-queue invariant for the pipe its own pc
names.  Tagged in `Proofs/RpqInv.lean`; it lives in a module of its own because an attribute cannot be used in the
module that declares it.
-/
/-- shares of a task in the sums of the pipe its pc names -/
register_simp_attr own_share
