import RzmqModel.Model.SendTx
/-!
M15 `SendTx` for a socket that keeps the frames until the last one is given and empties the transaction before it awaits
the hand-over (`goodTx`).  `SendTx.Inv` holds in every reachable state: the peer's pipe is a sublist of what the
application gave, minus the message in flight.  `SendTx.loss_run` counts: all but as many messages as futures were dropped
are in the pipe or in flight.  With no future dropped the two together make the pipe all that was given (`Props/C09`).
-/
namespace Rzmq

def goodTx : TxCfg := { buffersUntilLast := true, closesBeforeAwait := true }

structure SendTx.Inv (s : SendTx) : Prop where
  half_nil : s.half = []
  buf_cur : s.buf = s.cur
  busy_cur : s.busy = true → s.cur ≠ []
  stuck_zero : s.stuck = 0
  fly : match s.inflight with
        | some m => s.cur = [] ∧ ∃ o, s.offered = o ++ [m] ∧ s.pipe.Sublist o
        | none => s.pipe.Sublist s.offered

theorem SendTx.Inv.pipe_sublist {s : SendTx} (h : s.Inv) : s.pipe.Sublist s.offered := by
  have := h.fly
  split at this
  · obtain ⟨_, o, ho, hs⟩ := this
    exact ho ▸ hs.trans (List.sublist_append_left o _)
  · exact this

theorem SendTx.inv_init : ({} : SendTx).Inv :=
  ⟨rfl, rfl, by simp, rfl, by simp⟩

theorem SendTx.inv_step (s : SendTx) (e : TxEv) (h : s.Inv) : (s.step goodTx e).Inv := by
  cases hfl : s.inflight with
  | some m =>
    obtain ⟨hc, o, ho, hs⟩ : s.cur = [] ∧ ∃ o, s.offered = o ++ [m] ∧ s.pipe.Sublist o := by simpa [hfl] using h.fly
    cases e with
    | complete =>
      simp only [SendTx.step, hfl, SendTx.handOver]
      exact ⟨rfl, by simp [hc], by simp, h.stuck_zero, by simpa [h.half_nil, ho] using hs.append (.refl [m])⟩
    | cancel => exact ⟨h.half_nil, h.buf_cur, h.busy_cur, h.stuck_zero, h.pipe_sublist⟩
    | _ =>
      -- while a hand-over is pending the socket is not used
      simpa [SendTx.step, hfl] using h
  | none =>
    have hfly : s.pipe.Sublist s.offered := by simpa [hfl] using h.fly
    cases e with
    | frame f =>
      simp only [SendTx.step, hfl, goodTx, Option.isSome_none, if_true]
      exact ⟨h.half_nil, by simp [h.buf_cur], by simp, h.stuck_zero, by simpa [hfl] using hfly⟩
    | last f =>
      simp only [SendTx.step, hfl, goodTx, Option.isSome_none, if_true]
      exact ⟨h.half_nil, rfl, by simp, h.stuck_zero, rfl, s.offered, by simp [h.buf_cur], hfly⟩
    | complete => simpa [SendTx.step, hfl] using h
    | cancel => exact ⟨h.half_nil, h.buf_cur, h.busy_cur, h.stuck_zero, hfly⟩
    | whole w =>
      simp only [SendTx.step, hfl, Option.isSome_none]
      cases hb : s.busy with
      | true => simpa [h.busy_cur hb] using h
      | false =>
        simp only [Bool.false_eq_true, if_false, SendTx.handOver]
        exact ⟨rfl, h.buf_cur, by simp [hb], h.stuck_zero, by simpa [hfl, h.half_nil] using hfly.append (.refl [w])⟩

theorem SendTx.inv_run (evs : List TxEv) (s : SendTx) (h : s.Inv) : (s.run goodTx evs).Inv :=
  List.foldlRecOn evs _ h fun s hs e _ => SendTx.inv_step s e hs

/-- C09: `c` is the transaction of one of the four sockets, each of which has the proved shape `g` -/
theorem eq_of_or_of_and {α : Type} {c c₁ c₂ c₃ c₄ g : α} (h : c₁ = g ∧ c₂ = g ∧ c₃ = g ∧ c₄ = g)
    (hc : c = c₁ ∨ c = c₂ ∨ c = c₃ ∨ c = c₄) : c = g := by
  rcases hc with rfl | rfl | rfl | rfl
  · exact h.1
  · exact h.2.1
  · exact h.2.2.1
  · exact h.2.2.2

def SendTx.pendingCount (s : SendTx) : Nat := if s.inflight.isSome then 1 else 0

def cancelCount (evs : List TxEv) : Nat := evs.countP (· = .cancel)

/-- `n`: the futures dropped so far.  `last` gives a message that is then pending, `complete` moves the pending one into
the pipe, `whole` gives one and moves it, and only `cancel` forgets one, the pending one. -/
theorem SendTx.loss_step (s : SendTx) (e : TxEv) (n : Nat)
    (hb : s.offered.length ≤ s.pipe.length + n + s.pendingCount) :
    (s.step goodTx e).offered.length
      ≤ (s.step goodTx e).pipe.length + (n + if e = .cancel then 1 else 0) + (s.step goodTx e).pendingCount := by
  unfold SendTx.pendingCount at hb ⊢
  cases hfl : s.inflight with
  | some m =>
    -- a message is pending: `complete` moves it into the pipe, `cancel` forgets it, every other event is ignored
    cases e <;> simp [SendTx.step, SendTx.handOver, hfl] at hb ⊢ <;> omega
  | none =>
    simp only [hfl, Option.isSome_none, Bool.false_eq_true, if_false] at hb
    cases e with
    | frame f => simpa [SendTx.step, goodTx, hfl] using hb
    | last f =>
      simp [SendTx.step, goodTx, hfl]
      omega
    | complete => simpa [SendTx.step, hfl] using hb
    | cancel =>
      simp [SendTx.step]
      omega
    | whole w =>
      simp only [SendTx.step, hfl, Option.isSome_none, Bool.false_eq_true, if_false]
      split
      · split <;> simpa [hfl] using hb
      · simp [SendTx.handOver, hfl]
        omega

theorem SendTx.loss_run (evs : List TxEv) (s : SendTx) (n : Nat)
    (hb : s.offered.length ≤ s.pipe.length + n + s.pendingCount) :
    (s.run goodTx evs).offered.length
      ≤ (s.run goodTx evs).pipe.length + (n + cancelCount evs) + (s.run goodTx evs).pendingCount := by
  induction evs generalizing s n with
  | nil => simpa [SendTx.run, cancelCount] using hb
  | cons e r ih =>
    have := ih (s.step goodTx e) (n + if e = .cancel then 1 else 0) (SendTx.loss_step s e n hb)
    simp only [SendTx.run, List.foldl_cons, cancelCount, List.countP_cons, decide_eq_true_eq] at this ⊢
    omega

end Rzmq
