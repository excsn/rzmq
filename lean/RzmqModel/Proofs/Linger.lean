import RzmqModel.Model.Linger
/-!
When the linger phase ends.  Two facts carry the rest: the phase ends at a check that finds it over (`lingerEnds_done`:
so before the deadline, or with LINGER -1, only on empty pipes), and once every check from some time `T` on finds it
over it ends before `T + tick` (`lingerEnds_by`, with `T` the deadline or the moment the pipes are empty).
-/
namespace Rzmq

/-- what a linger check sees of the pipes at time `now`: the `match` that `lingerEnds` has inline, under a name, so that
facts about it can be stated (the two are definitionally equal, which is what the proofs below rely on) -/
def pipesEmptyAt (emptyAt : Option Nat) (now : Nat) : Bool :=
  match emptyAt with
  | some e => decide (e ≤ now)
  | none => false

theorem pipesEmptyAt_true {emptyAt : Option Nat} {now : Nat} (h : pipesEmptyAt emptyAt now = true) :
    ∃ e, emptyAt = some e ∧ e ≤ now := by
  cases emptyAt with
  | none => simp [pipesEmptyAt] at h
  | some e => exact ⟨e, rfl, by simpa [pipesEmptyAt] using h⟩

theorem lingerEnds_zero (tick fuel k : Nat) (emptyAt : Option Nat) :
    lingerEnds tick .zero emptyAt (fuel + 1) k = some (k * tick) := by
  simp [lingerEnds, lingerDone]

theorem lingerEnds_done {tick : Nat} {linger : Timeo} {emptyAt : Option Nat} {fuel k t : Nat}
    (h : lingerEnds tick linger emptyAt fuel k = some t) : lingerDone linger (pipesEmptyAt emptyAt t) t = true := by
  -- the branches of `lingerEnds`: no check left, this check ends the phase, on to the next check
  fun_induction lingerEnds tick linger emptyAt fuel k with
  | case1 => cases h
  | case2 fuel k now empty hd => exact Option.some.inj h ▸ hd
  | case3 fuel k now empty hd ih => exact ih h

/-- `h1`: check `k` is not yet a whole tick past `T`; `h2`: enough checks are left to reach `T` -/
theorem lingerEnds_by (tick : Nat) (linger : Timeo) (emptyAt : Option Nat) (T : Nat)
    (hT : ∀ now, T ≤ now → lingerDone linger (pipesEmptyAt emptyAt now) now = true) (fuel k : Nat)
    (h1 : k * tick < T + tick) (h2 : T + tick ≤ (k + fuel) * tick) :
    ∃ t, lingerEnds tick linger emptyAt fuel k = some t ∧ t < T + tick := by
  fun_induction lingerEnds tick linger emptyAt fuel k with
  | case1 k => exact absurd h1 (Nat.not_lt.mpr h2)
  | case2 fuel k now empty hd => exact ⟨_, rfl, h1⟩
  | case3 fuel k now empty hd ih =>
    -- this check did not end the phase, so it came before `T`, and the next one is less than a tick past `T`
    have hlt : k * tick < T := Nat.lt_of_not_le fun hle => hd (hT _ hle)
    have e1 : (k + 1) * tick = k * tick + tick := Nat.succ_mul k tick
    exact ih (by omega) (Nat.add_right_comm k 1 fuel ▸ h2)

/-- a bounded LINGER with enough checks to reach the deadline: the phase ends before `d + tick`, and before `d` only on
empty pipes -/
theorem lingerEnds_ms (tick : Nat) (ht : 0 < tick) (d : Nat) (emptyAt : Option Nat) (fuel : Nat)
    (hf : d + tick ≤ fuel * tick) :
    ∃ t, lingerEnds tick (.ms d) emptyAt fuel 0 = some t ∧ t < d + tick
      ∧ (t < d → ∃ e, emptyAt = some e ∧ e ≤ t) := by
  obtain ⟨t, h1, h2⟩ := lingerEnds_by tick (.ms d) emptyAt d (fun now h => by simp [lingerDone, h]) fuel 0
    (by omega) ((Nat.zero_add fuel).symm ▸ hf)
  refine ⟨t, h1, h2, fun hlt => pipesEmptyAt_true ?_⟩
  simpa [lingerDone, Nat.not_le.mpr hlt] using lingerEnds_done h1

/-- the fuel hypothesis of `linger_bounded` gives enough checks -/
theorem linger_fuel_enough (tick : Nat) (ht : 0 < tick) (d fuel : Nat) (hf : d / tick + 1 < fuel) :
    d + tick ≤ fuel * tick :=
  Nat.le_of_lt ((Nat.div_lt_iff_lt_mul ht).mp (Nat.add_div_right d ht ▸ hf))

/-- the same with the exact number of checks needed: the check at index `⌈d / tick⌉` must be among them -/
theorem lingerEnds_ms_bounded_tight (tick : Nat) (ht : 0 < tick) (d : Nat) (emptyAt : Option Nat) (fuel : Nat)
    (hf : (d + tick - 1) / tick < fuel) :
    ∃ t, lingerEnds tick (.ms d) emptyAt fuel 0 = some t ∧ t < d + tick
      ∧ (t < d → ∃ e, emptyAt = some e ∧ e ≤ t) := by
  apply lingerEnds_ms tick ht d emptyAt fuel
  have := (Nat.div_lt_iff_lt_mul ht).mp hf
  omega

end Rzmq
