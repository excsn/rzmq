import RzmqModel.Model.RpqInv
import RzmqModel.Proofs.Rpq
import RzmqModel.Proofs.RpqShare
/-!
What `C08.inv_step` (`Props/C08.lean`: every step keeps the ready-pipe-queue invariant) is proved from.  A step changes
the pc of one task, at most one pipe and the ready list.  `frame` reduces `WellFormed ∧ Inv` of the new state to an
obligation per pipe, `PipeInv`, in which what the other tasks contribute to the sums of the invariant is a variable and the
share of the stepping task is added to it.  The steps of the model take two shapes: `frame_pipe`, a task works on its
pipe, where the obligation is one of the moves `PipeInv.reserve`, `release`, `write`, `count`, `take`, `uncount`; and
`frame_ready`, the pipes stay and a token moves between the task and the ready list.  At the end: the ghost invariant
`Fifo` with its step lemma, and the induction over the events of the `Notify` wait loop.
-/
namespace Rzmq.C08
open Rzmq

theorem countTasks_eq_sum (s : RpqSt) (f : Pc → Bool) :
    (countTasks s f : Int) = (s.tasks.map fun e => b2i (f e.2)).sum :=
  filter_length_eq_sum s.tasks fun e => f e.2

theorem countTasks_update (s s' : RpqSt) (t : String) (pc pc' : Pc) (hnd : (s.tasks.map (·.1)).Nodup)
    (ht : s.task? t = some pc) (htasks : s'.tasks = (s.setTask t pc').tasks) (f : Pc → Bool) :
    (countTasks s' f : Int) = countTasks s f - b2i (f pc) + b2i (f pc') := by
  rw [countTasks_eq_sum, countTasks_eq_sum, htasks]
  exact sum_map_update s.tasks t pc pc' (fun x => b2i (f x)) hnd ht

theorem sumPending_update (s s' : RpqSt) (t : String) (pc pc' : Pc) (hnd : (s.tasks.map (·.1)).Nodup)
    (ht : s.task? t = some pc) (htasks : s'.tasks = (s.setTask t pc').tasks) (x : Nat) :
    sumPending s' x = sumPending s x - pendingRes x pc + pendingRes x pc' := by
  unfold sumPending
  rw [htasks]
  exact sum_map_update s.tasks t pc pc' (fun y => pendingRes x y) hnd ht

theorem b2i_le_countTasks (s : RpqSt) (t : String) (pc : Pc) (hm : (t, pc) ∈ s.tasks) (f : Pc → Bool) :
    b2i (f pc) ≤ countTasks s f := by
  cases h : f pc with
  | false => simp
  | true =>
    have := List.length_pos_of_mem (List.mem_filter.2 ⟨hm, h⟩ : (t, pc) ∈ s.tasks.filter fun e => f e.2)
    simp [countTasks]
    omega

theorem countTasks_eq_zero (s : RpqSt) (f : Pc → Bool) (h : ∀ e ∈ s.tasks, f e.2 = false) : countTasks s f = 0 := by
  unfold countTasks
  rw [List.length_eq_zero_iff, List.filter_eq_nil_iff]
  intro e he
  simp [h e he]

theorem exists_of_countTasks_pos (s : RpqSt) (f : Pc → Bool) (h : 0 < countTasks s f) : ∃ e ∈ s.tasks, f e.2 = true := by
  obtain ⟨e, he⟩ := List.exists_mem_of_length_pos h
  exact ⟨e, List.mem_filter.1 he⟩

theorem taken_imp_holds (x : Nat) (pc : Pc) (h : takenNotCounted x pc = true) : holdsToken x pc = true := by
  cases pc <;> first | exact h | cases h

theorem holders_split (s : RpqSt) (x : Nat) :
    countTasks s (holdsToken x)
      = countTasks s (takenNotCounted x) + countTasks s fun pc => holdsToken x pc && !takenNotCounted x pc := by
  unfold countTasks
  induction s.tasks with
  | nil => rfl
  | cons e l ih =>
    have := taken_imp_holds x e.2
    cases h1 : takenNotCounted x e.2 <;> cases h2 : holdsToken x e.2 <;> simp_all <;> omega

theorem pendingRes_nonneg (x : Nat) (pc : Pc) (h : pcOk pc) : 0 ≤ pendingRes x pc := by
  cases pc <;> simp only [pendingRes, pcOk] at h ⊢ <;> omega

/-- the pipe a pc works on: none before a consumer has taken one off the ready list, none after the operation -/
def pcPipe : Pc → Option Nat
  | .sendStart p _ | .sendReserved p _ | .sendWritten p | .sendCounted p _ => some p
  | .trySendStart p _ | .trySendWritten p | .trySendCounted p _ => some p
  | .batchStart p _ | .batchReserved p _ _ _ _ | .batchWritten p _ _ _ _ | .batchCounted p _ _ _ _
  | .batchRolledBack p _ _ _ => some p
  | .popGotSlot p | .popTaken p _ | .popDecremented p _ _ => some p
  | .tryPopGotSlot p | .tryPopTaken p _ | .tryPopDecremented p _ _ => some p
  | .popStart | .tryPopStart | .finished _ => none

theorem preds_of_pcPipe_ne (pc : Pc) (x : Nat) (h : pcPipe pc ≠ some x) :
    uncounted x pc = false ∧ takenNotCounted x pc = false ∧ holdsToken x pc = false ∧ pendingRes x pc = 0
      ∧ producerOn x pc = false := by
  cases pc <;> simp_all [pcPipe, uncounted, takenNotCounted, holdsToken, pendingRes, producerOn]

/-- the per-pipe part of the invariant with the task-dependent quantities abstracted -/
structure PipeInv (ps : PipeSt) (U T H P : Int) (R : Nat) : Prop where
  chan : ps.queued + U = (ps.chan.length : Int) + T
  queued : 0 ≤ ps.queued
  reserved : ps.reserved = ps.queued + P
  token : (R : Int) + H = (if ps.queued ≥ 1 then 1 else 0)

namespace PipeInv
variable {ps : PipeSt} {U T H P : Int} {R : Nat}

/-! The moves of a task on its pipe.  `U T H P` are the sums over the other tasks; the share of the task that moves is
added to them, before and after, and is all that changes besides the channel and the counters of the pipe.  Shares are
written as `own_share` leaves them (`+ b2i false`, `+ 0` for none), so that a move applies to the obligation of
`frame_pipe` as it stands. -/

theorem reserve (h : PipeInv ps U T H (P + 0) R) (k : Int) :
    PipeInv { ps with reserved := ps.reserved + k } U T H (P + k) R := by
  obtain ⟨h1, h2, h3, h4⟩ := h
  refine ⟨h1, h2, ?_, h4⟩
  simp only [h3]
  omega

theorem release {r : Int} (h : PipeInv ps U T H (P + r) R) :
    PipeInv { ps with reserved := ps.reserved - r } U T H (P + 0) R := by
  obtain ⟨h1, h2, h3, h4⟩ := h
  refine ⟨h1, h2, ?_, h4⟩
  simp only [h3]
  omega

theorem write (h : PipeInv ps (U + b2i false) T H P R) (item : Nat) :
    PipeInv { ps with chan := ps.chan ++ [item] } (U + b2i true) T H P R := by
  obtain ⟨h1, h2, h3, h4⟩ := h
  refine ⟨?_, h2, h3, h4⟩
  simp only [List.length_append, List.length_singleton, b2i_true, b2i_false] at h1 ⊢
  omega

theorem take {item : Nat} {rest : List Nat} (h : PipeInv ps U (T + b2i false) H P R) (hch : ps.chan = item :: rest) :
    PipeInv { ps with chan := rest } U (T + b2i true) H P R := by
  obtain ⟨h1, h2, h3, h4⟩ := h
  refine ⟨?_, h2, h3, h4⟩
  simp only [hch, List.length_cons, b2i_true, b2i_false] at h1 ⊢
  omega

/-- the task that counts the first item gets the token; its pending reservation goes from `r'` to `r`, one less (`hr`, by
`rfl` at the call) -/
theorem count {z : Bool} {r r' : Int} (h : PipeInv ps (U + b2i true) T (H + b2i z) (P + r') R) (hH : 0 ≤ H)
    (hr : r' = r + 1 := by rfl) :
    PipeInv { ps with queued := ps.queued + 1 } (U + b2i false) T (H + b2i (z || ps.queued == 0)) (P + r) R := by
  obtain ⟨h1, h2, h3, h4⟩ := h
  refine ⟨?_, ?_, ?_, ?_⟩
  all_goals
    cases z <;> simp only [b2i, beq_iff_eq, Bool.false_or, Bool.true_or, if_true, Bool.false_eq_true, if_false] at *
    all_goals omega

/-- the task that uncounts an item keeps the token if another item is counted -/
theorem uncount (h : PipeInv ps U (T + b2i true) (H + b2i true) P R) (hH : 0 ≤ H) :
    PipeInv { ps with queued := ps.queued - 1, reserved := ps.reserved - 1 } U (T + b2i false)
      (H + b2i (decide (ps.queued > 1))) P R := by
  obtain ⟨h1, h2, h3, h4⟩ := h
  refine ⟨?_, ?_, ?_, ?_⟩
  all_goals
    simp only [b2i, decide_eq_true_eq, if_true, Bool.false_eq_true, if_false] at *
    omega

end PipeInv

theorem tokens_cast (s : RpqSt) (x : Nat) (q : Int) :
    tokens s x = (if q ≥ 1 then 1 else 0) ↔
      (s.ready.count x : Int) + (countTasks s (holdsToken x) : Int) = (if q ≥ 1 then 1 else 0) := by
  unfold tokens
  split <;> omega

theorem Inv.pipeInv {s : RpqSt} (hi : Inv s) (ps : PipeSt) (hps : ps ∈ s.pipes) :
    PipeInv ps (countTasks s (uncounted ps.id)) (countTasks s (takenNotCounted ps.id)) (countTasks s (holdsToken ps.id))
      (sumPending s ps.id) (s.ready.count ps.id) := by
  obtain ⟨h1, h2, h3, _, h5, _⟩ := hi.1 ps hps
  exact ⟨h1, h2, h3, (tokens_cast s ps.id ps.queued).1 h5⟩

/-- `PipeInv` of every pipe is all there is to the per-pipe part of `Inv`: the rest of it repeats the global part or follows
from it (`pendingRes_nonneg`) -/
theorem Inv.of_pipeInv {s : RpqSt}
    (h : ∀ ps ∈ s.pipes, PipeInv ps (countTasks s (uncounted ps.id)) (countTasks s (takenNotCounted ps.id))
      (countTasks s (holdsToken ps.id)) (sumPending s ps.id) (s.ready.count ps.id))
    (hready : ∀ p' ∈ s.ready, (s.pipe? p').isSome) (hok : ∀ e ∈ s.tasks, pcOk e.2) : Inv s := by
  refine ⟨fun ps hps => ?_, hready, hok⟩
  obtain ⟨h1, h2, h3, h4⟩ := h ps hps
  exact ⟨h1, h2, h3, fun e he => pendingRes_nonneg _ _ (hok e he), (tokens_cast s ps.id ps.queued).2 h4, hready⟩

theorem pipe_exists (s : RpqSt) (hw : WellFormed s) (t : String) (pc : Pc) (ht : s.task? t = some pc) (p : Nat)
    (h : producerOn p pc = true ∨ holdsToken p pc = true ∨ takenNotCounted p pc = true) : (s.pipe? p).isSome :=
  hw.2.2.2.2 (t, pc) (s.task?_mem t pc ht) p h

/-- a task that holds the token of a pipe is the only holder, the pipe is not on the ready list and has an item counted -/
theorem holder (s : RpqSt) (hi : Inv s) (t : String) (pc : Pc) (ht : s.task? t = some pc) (ps : PipeSt)
    (hps : ps ∈ s.pipes) (hh : holdsToken ps.id pc = true) :
    s.ready.count ps.id = 0 ∧ 1 ≤ ps.queued ∧ countTasks s (holdsToken ps.id) = 1 := by
  have h4 := (hi.pipeInv ps hps).token
  have b := b2i_le_countTasks s t pc (s.task?_mem t pc ht) (holdsToken ps.id)
  rw [hh, b2i_true] at b
  omega

theorem holder_chan_ne_nil (s : RpqSt) (hi : Inv s) (t : String) (pc : Pc) (ht : s.task? t = some pc) (p : Nat)
    (ps : PipeSt) (hps : s.pipe? p = some ps) (hh : holdsToken p pc = true) (hnt : takenNotCounted p pc = false) :
    ps.chan ≠ [] := by
  -- `t` is the one holder and has not taken an item, so no task has (`holders_split`): what is counted is in the channel
  obtain ⟨hpsm, rfl⟩ := s.pipe?_some p ps hps
  have h1 := (hi.pipeInv ps hpsm).chan
  have hH := holder s hi t pc ht ps hpsm hh
  have hs := holders_split s ps.id
  have b := b2i_le_countTasks s t pc (s.task?_mem t pc ht) fun pc => holdsToken ps.id pc && !takenNotCounted ps.id pc
  rw [hh, hnt] at b
  intro hnil
  rw [hnil] at h1
  simp at b h1
  omega

theorem ready_count_le_one (s : RpqSt) (hi : Inv s) (x : Nat) : s.ready.count x ≤ 1 := by
  by_cases hx : x ∈ s.ready
  · obtain ⟨ps, hps⟩ := Option.isSome_iff_exists.1 (hi.2.1 x hx)
    obtain ⟨hm, rfl⟩ := s.pipe?_some x ps hps
    have := (hi.pipeInv ps hm).token
    omega
  · rw [List.count_eq_zero_of_not_mem hx]
    omega

/-- one ready-list entry per pipe at most, and room for one per pipe: a pipe that is not on the list can be put on -/
theorem arm_ok (s : RpqSt) (hw : WellFormed s) (hi : Inv s) (p : Nat) (hp : (s.pipe? p).isSome)
    (hfree : s.ready.count p = 0) : s.ready.length < s.readyCap := by
  have := (List.nodup_cons.2 ⟨List.count_eq_zero.1 hfree, List.nodup_iff_count.2 (ready_count_le_one s hi)⟩).length_le_of_subset
    (List.cons_subset.2 ⟨s.pipe?_isSome_mem_ids p hp, fun x hx => s.pipe?_isSome_mem_ids x (hi.2.1 x hx)⟩)
  have h4 := hw.2.2.2.1
  simp at this
  omega

/-- the holder of `p`'s token can always put `p` on the ready list (`holder`, `arm_ok`) -/
theorem arm_succeeds (s : RpqSt) (hw : WellFormed s) (hi : Inv s) (t : String) (pc : Pc) (ht : s.task? t = some pc) (p : Nat)
    (hh : holdsToken p pc = true) : s.pushReady p = some { s with ready := s.ready ++ [p] } := by
  have hp := pipe_exists s hw t pc ht p (.inr (.inl hh))
  obtain ⟨ps, hps⟩ := Option.isSome_iff_exists.1 hp
  obtain ⟨hpsm, rfl⟩ := s.pipe?_some p ps hps
  have hlt := arm_ok s hw hi ps.id hp (holder s hi t pc ht ps hpsm hh).1
  simp [RpqSt.pushReady, hlt]

/-- A step that changes task `t`'s pc from `pc` to `pc'`, maps the pipes through an id-preserving `F` and possibly changes
the ready list.  `hloc` is the obligation per pipe, purely arithmetical: what the other tasks contribute to the four sums
are the variables `U T H P`, and the share of `t` is added to them. -/
theorem frame {s s' : RpqSt} {t : String} {pc pc' : Pc} (F : PipeSt → PipeSt) (hw : WellFormed s) (hi : Inv s)
    (ht : s.task? t = some pc) (htasks : s'.tasks = (s.setTask t pc').tasks) (hpipes : s'.pipes = s.pipes.map F)
    (hcap : s'.readyCap = s.readyCap) (hFid : ∀ q, (F q).id = q.id)
    (hF : ∀ q ∈ s.pipes, (F q).cap = q.cap ∧ (F q).registered = q.registered)
    (hprod : ∀ x, producerOn x pc' = true → producerOn x pc = true)
    (hex : ∀ x, (producerOn x pc' = true ∨ holdsToken x pc' = true ∨ takenNotCounted x pc' = true) → (s.pipe? x).isSome)
    (hready : ∀ x ∈ s'.ready, (s.pipe? x).isSome) (hok : pcOk pc')
    (hloc : ∀ q ∈ s.pipes, ∀ U T H P : Int, 0 ≤ H →
      PipeInv q (U + b2i (uncounted q.id pc)) (T + b2i (takenNotCounted q.id pc)) (H + b2i (holdsToken q.id pc))
        (P + pendingRes q.id pc) (s.ready.count q.id) →
      PipeInv (F q) (U + b2i (uncounted q.id pc')) (T + b2i (takenNotCounted q.id pc')) (H + b2i (holdsToken q.id pc'))
        (P + pendingRes q.id pc') (s'.ready.count q.id)) :
    WellFormed s' ∧ Inv s' := by
  obtain ⟨hnd1, hnd2, hw3, hw4, hw5⟩ := hw
  have hmem := s.task?_mem t pc ht
  have hsome : ∀ x, (s.pipe? x).isSome → (s'.pipe? x).isSome := by
    intro x hx
    rw [RpqSt.pipe?_of_pipes_map s s' F hFid hpipes]
    simpa using hx
  have hcnt := countTasks_update s s' t pc pc' hnd2 ht htasks
  have hmem' : ∀ e ∈ s'.tasks, e = (t, pc') ∨ e ∈ s.tasks := by
    rw [htasks]
    exact mem_map_update s.tasks t pc'
  have hok' : ∀ e ∈ s'.tasks, pcOk e.2 := by
    intro e he
    rcases hmem' e he with rfl | he
    · exact hok
    · exact hi.2.2 e he
  have hready' : ∀ x ∈ s'.ready, (s'.pipe? x).isSome := fun x hx => hsome x (hready x hx)
  refine ⟨⟨?_, ?_, ?_, ?_, ?_⟩, Inv.of_pipeInv ?_ hready' hok'⟩
  · rw [hpipes, List.map_map, (funext hFid : (fun x => x.id) ∘ F = fun x => x.id)]
    exact hnd1
  · rw [htasks, RpqSt.setTask_tasks, names_map_update]
    exact hnd2
  · intro ps' hps'
    rw [hpipes] at hps'
    obtain ⟨q, hq, rfl⟩ := List.mem_map.1 hps'
    obtain ⟨h1, h2, h3⟩ := hw3 q hq
    obtain ⟨h4, h5⟩ := hF q hq
    refine ⟨?_, h5 ▸ h2, h4 ▸ h3⟩
    have e1 := hcnt (producerOn q.id)
    have : b2i (producerOn q.id pc') ≤ b2i (producerOn q.id pc) := by
      cases h : producerOn q.id pc'
      · exact b2i_nonneg _
      · rw [hprod _ h]
        exact Int.le_refl _
    rw [hFid]
    omega
  · rw [hpipes, List.length_map, hcap]
    exact hw4
  · intro e he x hx
    rcases hmem' e he with rfl | he
    · exact hsome x (hex x hx)
    · exact hsome x (hw5 e he x hx)
  · intro ps' hps'
    rw [hpipes] at hps'
    obtain ⟨q, hq, rfl⟩ := List.mem_map.1 hps'
    rw [hFid, hcnt, hcnt, hcnt, sumPending_update s s' t pc pc' hnd2 ht htasks]
    have hH := b2i_le_countTasks s t pc hmem (holdsToken q.id)
    exact hloc q hq _ _ _ _ (by omega) (by simpa only [Int.sub_add_cancel] using hi.pipeInv q hq)

/-- a task works on its pipe: the step replaces pipe `p` (found as `ps`) by `ps` with new channel and counters and moves
the task between two pcs that refer to `p` (or to a pc that refers to no pipe); what is owed is `PipeInv` of `p` alone,
a move of `PipeInv` once `own_share` has evaluated the shares of the two pcs.  The side conditions have as defaults the
proofs they have at every step of the model. -/
theorem frame_pipe {s s' : RpqSt} {t : String} {pc pc' : Pc} {p : Nat} {ps : PipeSt} {ch : List Nat} {qd rs : Int}
    (hw : WellFormed s) (hi : Inv s) (ht : s.task? t = some pc) (hps : s.pipe? p = some ps)
    (htasks : s'.tasks = (s.setTask t pc').tasks)
    (hself : ∀ {U T H P : Int}, 0 ≤ H →
      PipeInv ps (U + b2i (uncounted p pc)) (T + b2i (takenNotCounted p pc)) (H + b2i (holdsToken p pc))
        (P + pendingRes p pc) (s.ready.count p) →
      PipeInv { ps with chan := ch, queued := qd, reserved := rs } (U + b2i (uncounted p pc'))
        (T + b2i (takenNotCounted p pc')) (H + b2i (holdsToken p pc')) (P + pendingRes p pc') (s.ready.count p))
    (hok : pcOk pc' := by trivial) (hpc : pcPipe pc = some p := by rfl)
    (hpc' : pcPipe pc' = some p ∨ pcPipe pc' = none := by exact .inl rfl)
    (hprod : producerOn p pc' = true → producerOn p pc = true := by exact id)
    (hpipes : s'.pipes = (s.setPipe { ps with chan := ch, queued := qd, reserved := rs }).pipes := by rfl)
    (hcap : s'.readyCap = s.readyCap := by rfl) (hready : s'.ready = s.ready := by rfl) :
    WellFormed s' ∧ Inv s' := by
  obtain ⟨hpsm, rfl⟩ := s.pipe?_some p ps hps
  have huniq : ∀ q ∈ s.pipes, q.id = ps.id → q = ps := fun q hq h =>
    Option.some.inj ((s.pipe?_of_mem q hw.1 hq).symm.trans (h ▸ hps))
  have hoff : ∀ pc₀, pcPipe pc₀ = some ps.id ∨ pcPipe pc₀ = none → ∀ x, x ≠ ps.id → pcPipe pc₀ ≠ some x := by
    intro pc₀ h x hx
    rcases h with h | h <;> simp [h, Ne.symm hx]
  refine frame (fun q => if q.id == ps.id then { ps with chan := ch, queued := qd, reserved := rs } else q) hw hi ht htasks
    hpipes hcap ?_ ?_ ?_ ?_ ?_ hok ?_
  · intro q
    by_cases h : q.id = ps.id <;> simp [h]
  · intro q hq
    by_cases h : q.id = ps.id
    · simp [huniq q hq h]
    · simp [h]
  · intro x hx
    by_cases hxp : x = ps.id
    · exact hxp ▸ hprod (hxp ▸ hx)
    · rw [(preds_of_pcPipe_ne pc' x (hoff pc' hpc' x hxp)).2.2.2.2] at hx
      cases hx
  · intro x hx
    by_cases hxp : x = ps.id
    · simp [hxp, hps]
    · obtain ⟨_, h2, h3, _, h5⟩ := preds_of_pcPipe_ne pc' x (hoff pc' hpc' x hxp)
      simp [h2, h3, h5] at hx
  · rw [hready]
    exact hi.2.1
  · intro q hq U T H P b hinv
    rw [hready]
    by_cases h : q.id = ps.id
    · cases huniq q hq h
      simpa using hself b hinv
    · obtain ⟨a1, a2, a3, a4, _⟩ := preds_of_pcPipe_ne pc q.id (hoff pc (.inl hpc) _ h)
      obtain ⟨c1, c2, c3, c4, _⟩ := preds_of_pcPipe_ne pc' q.id (hoff pc' hpc' _ h)
      simpa [a1, a2, a3, a4, c1, c2, c3, c4, h] using hinv

@[simp] theorem uncounted_finished (x : Nat) (r : String) : uncounted x (.finished r) = false := rfl
@[simp] theorem takenNotCounted_finished (x : Nat) (r : String) : takenNotCounted x (.finished r) = false := rfl
@[simp] theorem holdsToken_finished (x : Nat) (r : String) : holdsToken x (.finished r) = false := rfl
@[simp] theorem pendingRes_finished (x : Nat) (r : String) : pendingRes x (.finished r) = 0 := rfl
@[simp] theorem producerOn_finished (x : Nat) (r : String) : producerOn x (.finished r) = false := rfl

/-- the pipes stay as they are and the task's share in what is uncounted, taken and reserved does not change; tokens are
conserved: whatever the ready list gains or loses for a pipe, the task gives up or takes -/
theorem frame_ready {s s' : RpqSt} {t : String} {pc pc' : Pc} (hw : WellFormed s) (hi : Inv s) (ht : s.task? t = some pc)
    (htasks : s'.tasks = (s.setTask t pc').tasks)
    (hprod : ∀ x, producerOn x pc' = true → producerOn x pc = true) (hok : pcOk pc')
    (hsame : ∀ x, uncounted x pc = uncounted x pc' ∧ takenNotCounted x pc = takenNotCounted x pc'
      ∧ pendingRes x pc = pendingRes x pc')
    (htok : ∀ x, (s'.ready.count x : Int) + b2i (holdsToken x pc') = s.ready.count x + b2i (holdsToken x pc))
    (hpipes : s'.pipes = s.pipes := by rfl) (hcap : s'.readyCap = s.readyCap := by rfl) :
    WellFormed s' ∧ Inv s' := by
  have hex : ∀ x, 0 < (s.ready.count x : Int) + b2i (holdsToken x pc) → (s.pipe? x).isSome := by
    intro x hx
    cases hh : holdsToken x pc
    · rw [hh, b2i_false] at hx
      exact hi.2.1 x (List.count_pos_iff.1 (by omega))
    · exact pipe_exists s hw t pc ht x (.inr (.inl hh))
  refine frame id hw hi ht htasks (by rw [hpipes, List.map_id]) hcap (fun _ => rfl) (fun _ _ => ⟨rfl, rfl⟩) hprod ?_ ?_ hok ?_
  · rintro x (h | h | h)
    · exact pipe_exists s hw t pc ht x (.inl (hprod x h))
    · have := htok x
      rw [h, b2i_true] at this
      exact hex x (by omega)
    · exact pipe_exists s hw t pc ht x (.inr (.inr ((hsame x).2.1.trans h)))
  · intro x hx
    have := htok x
    have := List.count_pos_iff.2 hx
    have := b2i_le_one (holdsToken x pc')
    have := b2i_nonneg (holdsToken x pc')
    exact hex x (by omega)
  · intro q _ U T H P _ hinv
    obtain ⟨a, b, c⟩ := hsame q.id
    have := htok q.id
    rw [← a, ← b, ← c]
    obtain ⟨h1, h2, h3, h4⟩ := hinv
    exact ⟨h1, h2, h3, by simp only [id]; omega⟩

/-- the task finishes with no share in any sum; nothing else changes -/
theorem frame_finish {s s' : RpqSt} {t : String} {pc : Pc} {r : String} (hw : WellFormed s) (hi : Inv s)
    (ht : s.task? t = some pc)
    (hq : ∀ x, uncounted x pc = false ∧ takenNotCounted x pc = false ∧ holdsToken x pc = false ∧ pendingRes x pc = 0 := by
      exact fun _ => ⟨rfl, rfl, rfl, rfl⟩)
    (htasks : s'.tasks = (s.setTask t (.finished r)).tasks := by rfl) (hpipes : s'.pipes = s.pipes := by rfl)
    (hcap : s'.readyCap = s.readyCap := by rfl) (hready : s'.ready = s.ready := by rfl) :
    WellFormed s' ∧ Inv s' := by
  refine frame_ready hw hi ht htasks (fun x h => by cases h) trivial
    (fun x => ⟨(hq x).1, (hq x).2.1, (hq x).2.2.2⟩) (fun x => ?_) hpipes hcap
  rw [hready, (hq x).2.2.1]
  rfl

/-- the task finishes by putting the token it holds for `p`, its only share, on the ready list -/
theorem frame_arm {s s' : RpqSt} {t : String} {pc : Pc} {r : String} {p : Nat} (hw : WellFormed s) (hi : Inv s)
    (ht : s.task? t = some pc)
    (hq : ∀ x, uncounted x pc = false ∧ takenNotCounted x pc = false ∧ holdsToken x pc = (p == x) ∧ pendingRes x pc = 0)
    (htasks : s'.tasks = (s.setTask t (.finished r)).tasks := by rfl) (hpipes : s'.pipes = s.pipes := by rfl)
    (hcap : s'.readyCap = s.readyCap := by rfl) (hready : s'.ready = s.ready ++ [p] := by rfl) :
    WellFormed s' ∧ Inv s' := by
  refine frame_ready hw hi ht htasks (fun x h => by cases h) trivial
    (fun x => ⟨(hq x).1, (hq x).2.1, (hq x).2.2.2⟩) (fun x => ?_) hpipes hcap
  rw [hready, (hq x).2.2.1, List.count_append, List.count_singleton]
  cases p == x <;> simp

/-- close a `pipe? p = none` branch: the task's pc refers to `p`, which exists by well-formedness -/
macro "vac_none" s:ident hw:ident t:ident ht:ident p:ident hnone:ident : tactic => `(tactic|
  (have hex := pipe_exists $s $hw $t _ $ht $p (by simp [producerOn, holdsToken, takenNotCounted])
   simp [$hnone:ident] at hex
   done))

-- the shares of a task in the sums of the pipe `p` its pc names: unfolding the four predicates leaves tests `p == p`
attribute [own_share] uncounted takenNotCounted holdsToken pendingRes beq_self_eq_true Bool.true_and if_true

/-- FIFO / exactly-once ghost invariant -/
def Fifo (s : RpqSt) : Prop :=
  ∀ p, ((s.takenLog.filter (·.1 == p)).map (·.2)) ++ ((s.pipe? p).map (·.chan)).getD []
      = (s.accepted.filter (·.1 == p)).map (·.2)

theorem Fifo.counters {s s' : RpqSt} (h : Fifo s) {p : Nat} {ps : PipeSt} (hps : s.pipe? p = some ps) {q r : Int}
    (hpipes : s'.pipes = (s.setPipe { ps with queued := q, reserved := r }).pipes)
    (hk : s'.takenLog = s.takenLog) (ha : s'.accepted = s.accepted) : Fifo s' := by
  intro x
  rw [RpqSt.pipe?_congr hpipes, RpqSt.setPipe_pipe?_of_some s p ps hps, hk, ha]
  split
  · next e => simpa [e, hps] using h p
  · exact h x

theorem Fifo.push {s s' : RpqSt} (h : Fifo s) {p : Nat} {ps : PipeSt} (hps : s.pipe? p = some ps) {item : Nat} {r : Int}
    (hpipes : s'.pipes = (s.setPipe { ps with chan := ps.chan ++ [item], reserved := r }).pipes)
    (hk : s'.takenLog = s.takenLog) (ha : s'.accepted = s.accepted ++ [(p, item)]) : Fifo s' := by
  intro x
  have hx := h x
  rw [RpqSt.pipe?_congr hpipes, RpqSt.setPipe_pipe?_of_some s p ps hps, hk, ha]
  split
  · next e =>
    subst e
    rw [hps] at hx
    simp [List.filter_append, ← hx]
  · next e => simpa [List.filter_append, Ne.symm e] using hx

theorem Fifo.pop {s s' : RpqSt} (h : Fifo s) {p : Nat} {ps : PipeSt} (hps : s.pipe? p = some ps) {item : Nat} {rest : List Nat}
    (hch : ps.chan = item :: rest) (hpipes : s'.pipes = (s.setPipe { ps with chan := rest }).pipes)
    (hk : s'.takenLog = s.takenLog ++ [(p, item)]) (ha : s'.accepted = s.accepted) : Fifo s' := by
  intro x
  have hx := h x
  rw [RpqSt.pipe?_congr hpipes, RpqSt.setPipe_pipe?_of_some s p ps hps, hk, ha]
  split
  · next e =>
    subst e
    rw [hps] at hx
    simp [List.filter_append, ← hx, hch]
  · next e => simpa [List.filter_append, Ne.symm e] using hx

/-- an item enters a channel where a producer writes, leaves one where a consumer takes; every other step changes at
most the counters of a pipe -/
theorem fifo_step (s : RpqSt) (t : String) (h : Fifo s) : Fifo (s.step t).1 := by
  cases ht : s.task? t with
  | none =>
    simp only [RpqSt.step, ht]
    exact h
  | some pc =>
    cases pc with
    | sendReserved p item | trySendStart p item =>
      simp only [RpqSt.step, ht]
      repeat' split
      all_goals first | exact h | exact h.push ‹_› rfl rfl rfl
    | batchReserved p n items sent zero | batchCounted p n items sent zero =>
      simp only [RpqSt.step, ht]
      split
      · exact h
      · rename_i ps hps
        split
        · split
          · exact h.push hps rfl rfl rfl
          · exact h.counters hps rfl rfl rfl
        · exact h.counters hps rfl rfl rfl
    | popGotSlot p | tryPopGotSlot p =>
      simp only [RpqSt.step, ht, popRecv]
      repeat' split
      all_goals first | exact h | exact h.pop ‹_› ‹_› rfl rfl rfl
    | tryPopDecremented p item prev =>
      simp only [RpqSt.step, ht]
      rcases s.pushReady_getD p with e | e <;> rw [e] <;> split <;> exact h
    | sendCounted p prev | trySendCounted p prev | batchRolledBack p items sent zero | popDecremented p item prev =>
      simp only [RpqSt.step, ht]
      split
      · split
        · next s' hp =>
          obtain ⟨rfl, _⟩ := s.pushReady_eq s' p hp
          exact h
        · exact h
      · exact h
    | _ =>
      simp only [RpqSt.step, ht, popRecv]
      repeat' split
      all_goals first | exact h | exact h.counters ‹_› rfl rfl rfl

/-- once the condition has been signalled, now or later in `evs`, two more polls end the wait (the first one does; the
second finds it ended) -/
theorem runRegisterFirst_done (w : WaitSt) (hw : w.Safe) (evs : List WaitEv) (h : w.cond = true ∨ WaitEv.signal ∈ evs) :
    (runRegisterFirst w (evs ++ [.poll, .poll])).pc = 2 := by
  induction evs generalizing w with
  | nil => exact (WaitSt.stepRegisterFirst_pc_two _).2 (.inl (hw.poll_done (h.resolve_right List.not_mem_nil)))
  | cons ev r ih =>
    cases ev with
    | signal => exact ih _ hw.signal (.inl rfl)
    | poll => exact ih _ hw.step (h.imp (WaitSt.stepRegisterFirst_cond w).trans (by simp))

end Rzmq.C08
