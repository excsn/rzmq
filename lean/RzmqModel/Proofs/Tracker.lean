import RzmqModel.Model.Tracker
import RzmqModel.Proofs.Assoc
/-!
The io_uring worker's operation table (C20).  Under `provedTrkCfg` every event is one of two moves on the table and the
kernel's list, up to the order of that list (`Inv.perm`): an entry is added under the key `insert` hands out (`Inv.add`: a
submission), or the entry of an operation is removed (`Inv.remove`: a last completion).  The first completion of a
zero-copy send is a removal followed by an addition, which gets the same key back, so the secondary map of entries
awaiting a notification stays empty (`Inv.notif`).  `closeFd` only re-tags entries.
-/
namespace Rzmq

theorem perm_cons_eraseIdx {α : Type} {l : List α} {i : Nat} {a : α} (h : l[i]? = some a) :
    l.Perm (a :: l.eraseIdx i) ∧ ∀ x, (l.set i x).Perm (x :: l.eraseIdx i) := by
  obtain ⟨hlt, rfl⟩ := List.getElem?_eq_some_iff.1 h
  have hset : ∀ x, (l.set i x).Perm (x :: l.eraseIdx i) := by
    intro x
    rw [List.set_eq_take_append_cons_drop, if_pos hlt, List.eraseIdx_eq_take_drop_succ]
    exact List.perm_middle
  refine ⟨?_, hset⟩
  have := hset l[i]
  rwa [List.set_getElem_self hlt] at this

theorem join_getElem?_set {α : Type} {l : List (Option α)} {k : Nat} (hk : k < l.length) (v : Option α) (j : Nat) :
    ((l.set k v)[j]?).join = if j = k then v else (l[j]?).join := by
  rw [List.getElem?_set]
  by_cases hj : k = j
  · subst hj; simp [hk]
  · simp [hj, Ne.symm hj]

theorem join_getElem?_concat {α : Type} (l : List (Option α)) (v : Option α) (j : Nat) :
    ((l ++ [v])[j]?).join = if j = l.length then v else (l[j]?).join := by
  rcases Nat.lt_trichotomy j l.length with h | h | h
  · rw [List.getElem?_append_left h, if_neg (Nat.ne_of_lt h)]
  · subst h; simp
  · rw [List.getElem?_append_right (Nat.le_of_lt h), if_neg (Nat.ne_of_gt h), List.getElem?_eq_none (Nat.le_of_lt h),
      List.getElem?_eq_none (by simp; omega)]

theorem foldl_set_none_getElem? {α : Type} (keys : List Nat) (l : List (Option α)) (j : Nat) (e : α)
    (h : (keys.foldl (fun s k => s.set k none) l)[j]? = some (some e)) : l[j]? = some (some e) := by
  induction keys generalizing l with
  | nil => exact h
  | cons k ks ih =>
    have h1 := ih (l.set k none) h
    rw [List.getElem?_set] at h1
    split at h1
    · split at h1 <;> cases h1
    · exact h1

theorem Tracker.slabGet_eq_some {t : Tracker} {k : Nat} {e : TOp} :
    t.slabGet k = some e ↔ t.slab[k]? = some (some e) := Option.join_eq_some_iff

theorem Tracker.lt_of_slabGet {t : Tracker} {k : Nat} {e : TOp} (h : t.slabGet k = some e) : k < t.slab.length := by
  obtain ⟨hlt, -⟩ := List.getElem?_eq_some_iff.1 (Tracker.slabGet_eq_some.1 h)
  exact hlt

theorem Tracker.insert_notif (t : Tracker) (op : TOp) : (t.insert op).1.notif = t.notif := by
  unfold Tracker.insert; split <;> rfl

theorem Tracker.slabRemove_slabGet (t : Tracker) (k j : Nat) :
    (t.slabRemove k).slabGet j = if j = k then none else t.slabGet j := by
  unfold Tracker.slabRemove Tracker.slabGet
  rw [List.getElem?_set]
  split
  · next e =>
    rw [if_pos e.symm]
    -- in range or not, the slot holds no entry
    split <;> rfl
  · next e => rw [if_neg (Ne.symm e)]

theorem Tracker.closeFd_slabGet {shape : CloseShape} {t : Tracker} {fd : Int} {j : Nat} {e : TOp}
    (h : (t.closeFd shape fd).1.slabGet j = some e) : ∃ e0, t.slabGet j = some e0 := by
  have h1 := foldl_set_none_getElem? _ _ _ _ (Tracker.slabGet_eq_some.1 h)
  rw [List.getElem?_map] at h1
  obtain ⟨o, ho, h2⟩ := Option.map_eq_some_iff.1 h1
  obtain ⟨e0, rfl, -⟩ := Option.map_eq_some_iff.1 h2
  exact ⟨e0, Tracker.slabGet_eq_some.2 ho⟩

theorem Tracker.closeFd_notif_mem {shape : CloseShape} {t : Tracker} {fd : Int} {p : Nat × TOp}
    (h : p ∈ (t.closeFd shape fd).1.notif) : ∃ p0 ∈ t.notif, p0.1 = p.1 := by
  simp only [Tracker.closeFd, List.mem_filter, List.mem_map] at h
  obtain ⟨⟨p0, hp0, rfl⟩, _⟩ := h
  exact ⟨p0, hp0, rfl⟩

/-- the re-tagging `closeFd .keepAll fd` applies to every entry -/
def retag (fd : Int) (o : TOp) : TOp := if o.fd == fd then { o with fd := orphanFd } else o

theorem retag_fd_ne {fd : Int} (hfd : fd ≠ orphanFd) (o : TOp) : (retag fd o).fd ≠ fd := by
  unfold retag
  split
  · exact fun h => hfd h.symm
  · rename_i h; simpa using h

theorem retag_kind (fd : Int) (o : TOp) : (retag fd o).kind = o.kind := by
  unfold retag; split <;> rfl

theorem retag_fd (fd : Int) (o : TOp) : (retag fd o).fd = o.fd ∨ (retag fd o).fd = orphanFd := by
  unfold retag; split <;> simp

/-- no re-tagged entry names the descriptor, so no key is vacated and both filters of the secondary map are trivial -/
theorem Tracker.closeFd_keepAll {t : Tracker} {fd : Int} (hfd : fd ≠ orphanFd) :
    t.closeFd .keepAll fd
      = ({ slab := t.slab.map (Option.map (retag fd)), free := t.free,
           notif := t.notif.map fun p => (p.1, retag fd p.2) }, []) := by
  have hmark : ∀ o : TOp, (if o.fd == fd && CloseShape.keepAll.keeps o.kind
      then { o with fd := orphanFd } else o) = retag fd o := by
    intro o; simp [retag, CloseShape.keeps]
  have hne := retag_fd_ne hfd
  have hn : ∀ p ∈ t.notif.map fun p => (p.1, retag fd p.2), p.2.fd ≠ fd := by
    intro p hp
    obtain ⟨p0, -, rfl⟩ := List.mem_map.1 hp
    exact hne p0.2
  simp only [Tracker.closeFd, hmark]
  generalize hkeys : List.filter _ (List.range _) = keys
  have : keys = [] := by
    rw [← hkeys, List.filter_eq_nil_iff]
    intro k _
    simp only [List.getElem?_map]
    cases t.slab[k]? with
    | none => simp
    | some o => cases o <;> simp [hne]
  subst this
  rw [List.filter_eq_self.2 fun p hp => bne_iff_ne.2 (hn p hp),
    List.filter_eq_nil_iff.2 fun p hp => by simpa using hn p hp]
  rfl

theorem Tracker.closeFd_keepAll_slabGet (t : Tracker) {fd : Int} (hfd : fd ≠ orphanFd) (k : Nat) :
    (t.closeFd .keepAll fd).1.slabGet k = (t.slabGet k).map (retag fd) := by
  rw [Tracker.closeFd_keepAll hfd]
  simp only [Tracker.slabGet, List.getElem?_map, Option.join_map_eq_map_join]

theorem Tracker.closeFd_keepAll_notifGet (t : Tracker) {fd : Int} (hfd : fd ≠ orphanFd) (k : Nat) :
    (t.closeFd .keepAll fd).1.notifGet k = (t.notifGet k).map (retag fd) := by
  rw [Tracker.closeFd_keepAll hfd]
  simp only [Tracker.notifGet, List.find?_map, Option.map_map]
  rfl

/-- the list of vacant keys is exactly the set of vacant slots, each once -/
structure Tracker.FreeOK (t : Tracker) : Prop where
  nodup : t.free.Nodup
  vacant : ∀ k ∈ t.free, t.slab[k]? = some none
  listed : ∀ k, t.slab[k]? = some none → k ∈ t.free

theorem Tracker.FreeOK.insert_key_vacant {t : Tracker} (h : t.FreeOK) (op : TOp) :
    t.slabGet (t.insert op).2 = none := by
  unfold Tracker.insert Tracker.slabGet
  split
  · rename_i k rest hf
    rw [h.vacant k (hf ▸ List.mem_cons_self)]
    rfl
  · simp

theorem Tracker.FreeOK.insert_slabGet {t : Tracker} (h : t.FreeOK) (op : TOp) (j : Nat) :
    (t.insert op).1.slabGet j = if j = (t.insert op).2 then some op else t.slabGet j := by
  unfold Tracker.insert Tracker.slabGet
  split
  · rename_i k rest hf
    obtain ⟨hlt, -⟩ := List.getElem?_eq_some_iff.1 (h.vacant k (hf ▸ List.mem_cons_self))
    exact join_getElem?_set hlt _ j
  · exact join_getElem?_concat _ _ j

theorem Tracker.FreeOK.insert {t : Tracker} (h : t.FreeOK) (op : TOp) : (t.insert op).1.FreeOK := by
  unfold Tracker.insert
  split
  · rename_i k rest hf
    obtain ⟨hk, hnd⟩ := List.nodup_cons.1 (hf ▸ h.nodup)
    refine ⟨hnd, fun j hj => ?_, fun j hj => ?_⟩
    · have hne : k ≠ j := fun e => hk (e ▸ hj)
      simp only [List.getElem?_set_ne hne]
      exact h.vacant j (hf ▸ List.mem_cons_of_mem _ hj)
    · simp only [List.getElem?_set] at hj
      split at hj
      · split at hj <;> cases hj
      · rename_i hne
        exact (List.mem_cons.1 (hf ▸ h.listed j hj)).resolve_left (Ne.symm hne)
  · rename_i hf
    refine ⟨by simp [hf], fun j hj => by simp [hf] at hj, fun j hj => ?_⟩
    simp only [List.getElem?_append] at hj
    split at hj
    · exact h.listed j hj
    · cases List.mem_singleton.1 (List.mem_of_getElem? hj)

theorem Tracker.FreeOK.slabRemove {t : Tracker} (h : t.FreeOK) {k : Nat} {e : TOp} (hk : t.slabGet k = some e) :
    (t.slabRemove k).FreeOK := by
  have hlt := Tracker.lt_of_slabGet hk
  rw [Tracker.slabGet_eq_some] at hk
  refine ⟨List.nodup_cons.2 ⟨fun hm => ?_, h.nodup⟩, fun j hj => ?_, fun j hj => ?_⟩
  · have := h.vacant k hm
    rw [hk] at this
    cases this
  · simp only [Tracker.slabRemove, List.getElem?_set]
    split
    · rfl
    · rename_i hne
      exact h.vacant j ((List.mem_cons.1 hj).resolve_left (Ne.symm hne))
  · simp only [Tracker.slabRemove, List.getElem?_set] at hj
    split at hj
    · rename_i hkj; exact hkj ▸ List.mem_cons_self
    · exact List.mem_cons_of_mem _ (h.listed j hj)

theorem Tracker.FreeOK.of_vacant_iff {t t' : Tracker} (h : t.FreeOK) (hf : t'.free = t.free)
    (hs : ∀ k : Nat, t'.slab[k]? = some none ↔ t.slab[k]? = some none) : t'.FreeOK := by
  refine ⟨hf ▸ h.nodup, fun k hk => (hs k).2 (h.vacant k (hf ▸ hk)), fun k hk => ?_⟩
  rw [hf]
  exact h.listed k ((hs k).1 hk)

theorem Tracker.FreeOK.of_eq {t t' : Tracker} (h : t.FreeOK) (hs : t'.slab = t.slab) (hf : t'.free = t.free) :
    t'.FreeOK :=
  h.of_vacant_iff hf fun k => by rw [hs]

theorem Tracker.FreeOK.closeFd_keepAll {t : Tracker} (h : t.FreeOK) {fd : Int} (hfd : fd ≠ orphanFd) :
    (t.closeFd .keepAll fd).1.FreeOK := by
  rw [Tracker.closeFd_keepAll hfd]
  refine h.of_vacant_iff rfl fun k => ?_
  simp only [List.getElem?_map]
  cases t.slab[k]? with
  | none => simp
  | some o => cases o <;> simp

theorem find?_key_filter_ne {l : List (Nat × TOp)} {k k' : Nat} (h : k' ≠ k) :
    (l.filter (·.1 != k)).find? (·.1 == k') = l.find? (·.1 == k') := by
  rw [find?_fst_filter, if_neg h]

theorem find?_key_filter_self (l : List (Nat × TOp)) (k : Nat) :
    (l.filter (·.1 != k)).find? (·.1 == k) = none := by
  rw [find?_fst_filter, if_pos rfl]

/-- the configuration the theorems are about -/
def provedTrkCfg : TrkCfg := { close := .keepAll, byKind := true, keepsSlot := true }

theorem Tracker.lookup_of_notif_nil {t : Tracker} (hn : t.notif = []) (k : Nat) (b : Bool) :
    t.lookup true k b = t.slabGet k := by
  unfold Tracker.lookup Tracker.notifGet
  cases b <;> simp [hn]

theorem Tracker.take_of_notif_nil {t : Tracker} (hn : t.notif = []) {k : Nat} {e : TOp} (hk : t.slabGet k = some e)
    (b : Bool) : t.take true k b = (t.slabRemove k, some e) := by
  unfold Tracker.take Tracker.notifGet
  cases b <;> simp [hn, hk]

/-- putting an entry back for its notification right after taking it is an `insert`: the slot just vacated is the next
one handed out, so the key stays taken -/
theorem Tracker.slabRemove_awaitNotification (t : Tracker) (k : Nat) (e : TOp) :
    (t.slabRemove k).awaitNotification true k e = ((t.slabRemove k).insert e).1
    ∧ ((t.slabRemove k).insert e).2 = k := by
  simp [Tracker.slabRemove, Tracker.awaitNotification, Tracker.insert]

/-- the entry `e` is the one that owns the buffers of the kernel-held operation `ko` -/
def Owns (e : TOp) (ko : KOp) : Prop :=
  (e.fd = ko.op.fd ∨ e.fd = orphanFd)
  ∧ (if ko.awaitsNotification then ∃ b, e.kind = .lease b ∧ ko.op.kind.buf = some b else e.kind = ko.op.kind)

theorem Owns.matchesOp {e : TOp} {ko : KOp} (h : Owns e ko) : matchesOp e ko = true := by
  obtain ⟨hfd, hk⟩ := h
  have h1 : (e.fd == ko.op.fd || e.fd == orphanFd) = true := by simpa using hfd
  unfold Rzmq.matchesOp
  rw [h1, Bool.true_and]
  split at hk
  · obtain ⟨b, hb1, hb2⟩ := hk
    rw [if_pos ‹_›, hb1, hb2]
    simp [OpKind.isSend, OpKind.buf]
  · rw [if_neg ‹_›, hk]
    exact beq_self_eq_true _

theorem Owns.retag {e : TOp} {ko : KOp} (h : Owns e ko) (fd : Int) : Owns (retag fd e) ko := by
  obtain ⟨hfd, hk⟩ := h
  refine ⟨?_, by rw [retag_kind]; exact hk⟩
  rcases retag_fd fd e with h1 | h1
  · rw [h1]; exact hfd
  · exact Or.inr h1

/-- what holds of the table and the kernel in every reachable state -/
structure TrkSys.Inv (s : TrkSys) : Prop where
  notif : s.t.notif = []
  free : s.t.FreeOK
  keys : (s.kernel.map (·.key)).Nodup
  held : ∀ ko ∈ s.kernel, ∃ e, s.t.slabGet ko.key = some e ∧ Owns e ko
  cover : ∀ k e, s.t.slabGet k = some e → k ∈ s.kernel.map (·.key)
  mis : s.misattributed = []
  unk : s.unknown = []

theorem TrkSys.inv_init : TrkSys.Inv {} := by
  refine ⟨rfl, ⟨List.nodup_nil, by simp, by simp⟩, by simp, by simp, ?_, rfl, rfl⟩
  intro k e h; simp [Tracker.slabGet] at h

theorem TrkSys.Inv.perm {s : TrkSys} (h : s.Inv) {kernel : List KOp} (hp : s.kernel.Perm kernel) :
    Inv { s with kernel := kernel } :=
  ⟨h.notif, h.free, (hp.map _).nodup h.keys, fun ko hko => h.held ko (hp.mem_iff.2 hko),
    fun k e hk => (hp.map _).mem_iff.1 (h.cover k e hk), h.mis, h.unk⟩

theorem TrkSys.Inv.add {s : TrkSys} (h : s.Inv) {op : TOp} {ko : KOp} (hk : ko.key = (s.t.insert op).2)
    (ho : Owns op ko) : Inv { s with t := (s.t.insert op).1, kernel := ko :: s.kernel } := by
  have hget := h.free.insert_slabGet op
  have hfresh : ∀ x ∈ s.kernel, x.key ≠ (s.t.insert op).2 := by
    intro x hx heq
    obtain ⟨e, he, -⟩ := h.held x hx
    rw [heq, h.free.insert_key_vacant] at he
    cases he
  refine ⟨(s.t.insert_notif op).trans h.notif, h.free.insert op, List.nodup_cons.2 ⟨fun hm => ?_, h.keys⟩, ?_, ?_,
    h.mis, h.unk⟩
  · obtain ⟨x, hx, hxk⟩ := List.mem_map.1 hm
    exact hfresh x hx (hxk.trans hk)
  · intro x hx
    rw [hget]
    rcases List.mem_cons.1 hx with rfl | hx
    · exact ⟨op, if_pos hk, ho⟩
    · rw [if_neg (hfresh x hx)]
      exact h.held x hx
  · intro k e hke
    rw [hget] at hke
    split at hke
    · rename_i hkk; exact List.mem_cons.2 (Or.inl (hkk.trans hk.symm))
    · exact List.mem_cons_of_mem _ (h.cover k e hke)

theorem TrkSys.Inv.remove {s : TrkSys} (h : s.Inv) {ko : KOp} {rest : List KOp} (hp : s.kernel.Perm (ko :: rest)) :
    Inv { s with t := s.t.slabRemove ko.key, kernel := rest } := by
  have h' := h.perm hp
  obtain ⟨e, he, -⟩ := h'.held ko List.mem_cons_self
  obtain ⟨hfresh, hnd⟩ := List.nodup_cons.1 h'.keys
  have hget := s.t.slabRemove_slabGet ko.key
  refine ⟨h.notif, h.free.slabRemove he, hnd, ?_, ?_, h.mis, h.unk⟩
  · intro x hx
    rw [hget, if_neg fun heq => hfresh (List.mem_map.2 ⟨x, hx, heq⟩)]
    exact h'.held x (List.mem_cons_of_mem _ hx)
  · intro k e' hk
    rw [hget] at hk
    split at hk
    · cases hk
    · rename_i hne
      exact (List.mem_cons.1 (h'.cover k e' hk)).resolve_left hne

theorem TrkSys.inv_step {s : TrkSys} (h : s.Inv) (ev : TrkEv) : (s.step provedTrkCfg ev).Inv := by
  cases ev with
  | submit fd kind =>
    refine (h.add ?_ ?_).perm (List.perm_append_singleton _ _).symm
    · rfl
    · exact ⟨Or.inl rfl, rfl⟩
  | closeFd fd =>
    simp only [TrkSys.step, provedTrkCfg]
    have hfd : (fd : Int) ≠ orphanFd := by unfold orphanFd; omega
    refine ⟨?_, h.free.closeFd_keepAll hfd, h.keys, ?_, ?_, h.mis, h.unk⟩
    · rw [Tracker.closeFd_keepAll hfd]; simp [h.notif]
    · intro ko hko
      obtain ⟨e, he, ho⟩ := h.held ko hko
      exact ⟨retag fd e, by rw [Tracker.closeFd_keepAll_slabGet _ hfd, he, Option.map_some], ho.retag fd⟩
    · intro k e hk
      obtain ⟨e0, h0⟩ := Tracker.closeFd_slabGet hk
      exact h.cover k e0 h0
  | first i =>
    simp only [TrkSys.step, provedTrkCfg]
    cases hi : s.kernel[i]? with
    | none => exact h
    | some ko =>
      simp only
      split
      · exact h
      · rename_i hguard
        rw [Bool.or_eq_true, not_or] at hguard
        have hna : ko.awaitsNotification = false := Bool.eq_false_iff.2 hguard.1
        obtain ⟨b, hb⟩ := Option.ne_none_iff_exists'.1 (mt Option.isNone_iff_eq_none.2 hguard.2)
        obtain ⟨hp, hset⟩ := perm_cons_eraseIdx hi
        obtain ⟨e, he, ho⟩ := h.held ko (List.mem_of_getElem? hi)
        have hkind : e.kind = ko.op.kind := by simpa [hna] using ho.2
        obtain ⟨hins, hkey⟩ := Tracker.slabRemove_awaitNotification s.t ko.key { fd := e.fd, kind := .lease b }
        simp only [Tracker.take_of_notif_nil h.notif he, hkind, hb, ho.matchesOp, if_true, hins]
        -- the entry is taken out and put back as one that awaits its notification, under the same key
        refine ((h.remove hp).add (ko := { ko with awaitsNotification := true }) hkey.symm ?_).perm (hset _).symm
        exact ⟨ho.1, by simp [hb]⟩
  | final i =>
    simp only [TrkSys.step, provedTrkCfg]
    cases hi : s.kernel[i]? with
    | none => exact h
    | some ko =>
      obtain ⟨e, he, ho⟩ := h.held ko (List.mem_of_getElem? hi)
      simp only [Tracker.take_of_notif_nil h.notif he, ho.matchesOp, if_true]
      exact h.remove (perm_cons_eraseIdx hi).1

theorem TrkSys.inv_run {s : TrkSys} (h : s.Inv) (evs : List TrkEv) : (s.run provedTrkCfg evs).Inv :=
  List.foldlRecOn evs _ h fun _ hs ev _ => TrkSys.inv_step hs ev

theorem TrkSys.Inv.holds {s : TrkSys} (h : s.Inv) : ∀ ko ∈ s.kernel, s.holds ko = true := by
  intro ko hko
  obtain ⟨e, he, ho⟩ := h.held ko hko
  unfold TrkSys.holds
  rw [Tracker.lookup_of_notif_nil h.notif, he]
  exact ho.matchesOp

/-- nothing leaks: once the kernel holds nothing, the table is empty -/
theorem TrkSys.Inv.empty {s : TrkSys} (h : s.Inv) (hk : s.kernel = []) :
    (∀ k, s.t.slabGet k = none) ∧ s.t.notif = [] := by
  refine ⟨?_, h.notif⟩
  intro k
  cases hg : s.t.slabGet k with
  | none => rfl
  | some e =>
    have := h.cover k e hg
    rw [hk] at this
    cases this

theorem FdTable.step_named_wronglyClosed (t : FdTable) (e : FdEv) :
    (t.step true e).wronglyClosed = t.wronglyClosed := by
  cases e with
  | registered fd => simp only [FdTable.step]; split <;> rfl
  | closed fd => rfl
  | shutdownRequest fd tok =>
    simp only [FdTable.step]
    split
    · rfl
    · rename_i cur _
      by_cases hne : cur = tok <;> simp [hne]

end Rzmq
