import RzmqModel.Model.Routing
/-!
Reconnect back-off arithmetic (C17).  The core's delay is the uncapped schedule `base · 2^min(k,31)` with the cap applied
afterwards (`coreDelay_eq`), so its properties follow by linear arithmetic from what one more failure does to the
uncapped schedule (`uncapped_succ`).  The connecter's fast-forward loop is a fold of capped doublings with a closed form
(`foldl_double_cap`).
-/
namespace Rzmq

/-- by evaluation: `31` is `Gen.backoffPowerCap` as re-extracted from the source -/
theorem coreDelay_eq (base max k : Nat) :
    coreDelay base max k = if 0 < max then min (base * 2 ^ min k 31) max else base * 2 ^ min k 31 := rfl

theorem uncapped_succ (base k : Nat) :
    (k < 31 ∧ base * 2 ^ min (k + 1) 31 = 2 * (base * 2 ^ min k 31))
      ∨ (31 ≤ k ∧ base * 2 ^ min (k + 1) 31 = base * 2 ^ min k 31) := by
  by_cases h : k < 31
  · left
    rw [Nat.min_eq_left (by omega), Nat.min_eq_left (by omega)]
    exact ⟨h, by rw [Nat.pow_succ, ← Nat.mul_assoc, Nat.mul_comm]⟩
  · right
    rw [Nat.min_eq_right (by omega), Nat.min_eq_right (by omega)]
    exact ⟨by omega, rfl⟩

theorem uncapped_le (base k : Nat) : base * 2 ^ min k 31 ≤ base * 2 ^ 31 :=
  Nat.mul_le_mul_left _ (Nat.pow_le_pow_right (by decide) (Nat.min_le_right ..))

/-- the connecter's fast-forward loop: `n` capped doublings of `base` -/
theorem foldl_double_cap (m : Nat) (n : Nat) (base : Nat) (hb : base ≤ m) :
    (List.range n).foldl (fun d _ => min (2 * d) m) base = min (base * 2 ^ n) m := by
  induction n with
  | zero => simp; omega
  | succ n ih =>
    rw [List.range_succ, List.foldl_append, ih]
    simp only [List.foldl_cons, List.foldl_nil]
    rw [Nat.pow_succ, ← Nat.mul_assoc]
    omega

/-- rests on the re-extracted `Gen.connFirstDelayCapped = 1` -/
theorem connInitial_some (m base : Nat) (hm : 0 < m) : connInitial (some m) base = min base m := by
  simp [connInitial, Gen.connFirstDelayCapped, hm]

theorem connDelay_zero (m base k : Nat) (hm : 0 < m) : connDelay (some m) base k 0 = coreDelay base m k := by
  rw [coreDelay_eq, if_pos hm]
  simp only [connDelay, connFastForward, connInitial_some m base hm]
  have hp : 0 < 2 ^ min k 31 := Nat.pow_pos (by decide)
  split
  · rw [foldl_double_cap m _ _ (Nat.min_le_right ..)]
    by_cases hbm : base ≤ m
    · rw [Nat.min_eq_left hbm]
    · have h1 : m ≤ m * 2 ^ min k 31 := Nat.le_mul_of_pos_right _ hp
      have h2 : base ≤ base * 2 ^ min k 31 := Nat.le_mul_of_pos_right _ hp
      rw [Nat.min_eq_right (Nat.le_of_not_le hbm)]
      omega
  next h =>
    have : base = 0 := by simpa [hm] using h
    rw [this, Nat.zero_mul]

end Rzmq
