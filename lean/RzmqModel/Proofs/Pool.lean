import RzmqModel.Model.Pool
/-!
The send-buffer pool (M10, C20).  `Pool.Consistent` only talks about `used` and `free`; `ConsL` is the same statement
about the two lists.  Whatever the event, `step` makes one of three moves (`Pool.Move`): nothing, hand out the head of
the free list, or `release`, which puts an id that is in use back and leaves one that is free alone.  Each keeps `ConsL`,
and none lets a lease name a buffer that does not exist.
-/
namespace Rzmq

/-- `Pool.Consistent` as a predicate on the two lists it depends on -/
def ConsL (used : List Bool) (free : List Nat) : Prop :=
  free.Nodup ∧ (∀ id, id ∈ free → id < used.length ∧ used[id]? = some false)
  ∧ (∀ id, id < used.length → used[id]? = some false → id ∈ free)

theorem Pool.consistent_iff (p : Pool) : p.Consistent ↔ ConsL p.used p.free := Iff.rfl

theorem ConsL.take {used : List Bool} {id : Nat} {rest : List Nat} (h : ConsL used (id :: rest)) :
    ConsL (used.set id true) rest := by
  obtain ⟨hnd, hfree, hused⟩ := h
  obtain ⟨hid, hnd'⟩ := List.nodup_cons.1 hnd
  refine ⟨hnd', fun j hj => ?_, fun j hj hv => ?_⟩
  · have hne : id ≠ j := fun e => hid (e ▸ hj)
    rw [List.length_set, List.getElem?_set_ne hne]
    exact hfree j (List.mem_cons_of_mem _ hj)
  · rw [List.length_set] at hj
    by_cases hne : id = j
    · rw [hne, List.getElem?_set_self hj] at hv
      cases hv
    · rw [List.getElem?_set_ne hne] at hv
      exact (List.mem_cons.1 (hused j hj hv)).resolve_left (Ne.symm hne)

theorem ConsL.release_mem {used : List Bool} {free : List Nat} {id : Nat} (h : ConsL used free) (hm : id ∈ free) :
    ConsL (used.set id false) free := by
  obtain ⟨hlt, heq⟩ := List.getElem?_eq_some_iff.1 (h.2.1 id hm).2
  rw [← heq, List.set_getElem_self hlt]
  exact h

theorem ConsL.release_not_mem {used : List Bool} {free : List Nat} {id : Nat} (h : ConsL used free)
    (hlt : id < used.length) (hm : id ∉ free) : ConsL (used.set id false) (free ++ [id]) := by
  obtain ⟨hnd, hfree, hused⟩ := h
  refine ⟨(List.perm_append_singleton id free).nodup_iff.2 (List.nodup_cons.2 ⟨hm, hnd⟩), fun j hj => ?_,
    fun j hj hv => ?_⟩
  · rw [List.length_set]
    rcases List.mem_append.1 hj with hj | hj
    · have hne : id ≠ j := fun e => hm (e ▸ hj)
      rw [List.getElem?_set_ne hne]
      exact hfree j hj
    · rw [List.mem_singleton.1 hj]
      exact ⟨hlt, List.getElem?_set_self hlt⟩
  · rw [List.length_set] at hj
    by_cases hne : id = j
    · exact List.mem_append_right _ (List.mem_singleton.2 hne.symm)
    · rw [List.getElem?_set_ne hne] at hv
      exact List.mem_append_left _ (hused j hj hv)

theorem ConsL.length_free_of_all_unused {used : List Bool} {free : List Nat} (h : ConsL used free)
    (hall : ∀ id, id < used.length → used[id]? = some false) : free.length = used.length := by
  obtain ⟨hnd, hfree, hused⟩ := h
  apply Nat.le_antisymm
  · have := hnd.length_le_of_subset (l₂ := List.range used.length)
      (fun j hj => List.mem_range.mpr (hfree j hj).1)
    rwa [List.length_range] at this
  · have := (List.nodup_range (n := used.length)).length_le_of_subset (l₂ := free)
      (fun j hj => hused j (List.mem_range.mp hj) (hall j (List.mem_range.mp hj)))
    rwa [List.length_range] at this

theorem Pool.release_used_length (p : Pool) (id : Nat) : (p.release id).used.length = p.used.length := by
  fun_cases Pool.release p id with
  | case3 => rfl
  | _ => exact List.length_set

theorem Pool.release_leases (p : Pool) (id : Nat) : (p.release id).leases = p.leases := by
  fun_cases Pool.release p id <;> rfl

theorem Pool.release_cap (p : Pool) (id : Nat) : (p.release id).cap = p.cap := by
  fun_cases Pool.release p id <;> rfl

theorem Pool.release_consistent {p : Pool} (h : p.Consistent) (id : Nat) : (p.release id).Consistent := by
  fun_cases Pool.release p id with
  | case1 _ _ hc => exact ConsL.release_mem h (List.contains_iff_mem.mp hc)
  | case2 hlt _ hc => exact ConsL.release_not_mem h hlt (mt List.contains_iff_mem.mpr hc)
  | case3 => exact h

/-- `release` of an existing buffer always leaves it on the free list (double releases included) -/
theorem Pool.mem_free_release {p : Pool} {id : Nat} (hlt : id < p.used.length) : id ∈ (p.release id).free := by
  fun_cases Pool.release p id with
  | case1 _ _ hc => exact List.contains_iff_mem.mp hc
  | case2 => exact List.mem_append_right _ (List.mem_singleton.mpr rfl)
  | case3 hn => exact absurd hlt hn

theorem Pool.release_of_not_lt {p : Pool} {id : Nat} (h : ¬ id < p.used.length) : p.release id = p := by
  unfold Pool.release
  rw [if_neg h]

/-- what a step can do: nothing, hand out the head of the free list, or `release`; the leases afterwards name buffers that
leases named before, or the one just handed out -/
inductive Pool.Move (p : Pool) : Pool × Option Nat → Prop
  | same {L} (hL : L.map (·.1) ⊆ p.leases.map (·.1)) : Move p ({ p with leases := L }, none)
  | take {L id rest} (hf : p.free = id :: rest) (hL : L.map (·.1) ⊆ id :: p.leases.map (·.1)) :
      Move p ({ p with used := p.used.set id true, free := rest, leases := L }, some id)
  | release {L} (hL : L.map (·.1) ⊆ p.leases.map (·.1)) (id) : Move p (({ p with leases := L } : Pool).release id, none)

theorem Pool.step_move (p : Pool) (e : PoolEv) : p.Move (p.step e) := by
  have hsame : p.Move (p, none) := .same (List.Subset.refl _)
  -- the branches of `Pool.step` that do not return `p`: `acquire` of data that fits (4), `lease` (6), `handOver` (7),
  -- `dropLease` of a lease that exists (9), `release` (10)
  fun_cases Pool.step p e with
  | case4 len id rest _ hf _ => exact .take hf (List.subset_cons_self ..)
  | case6 id rest hf => exact .take hf (List.map_append ▸ (List.perm_append_singleton id _).subset)
  | case7 id =>
    -- a lease handed over names the buffer it named
    have hL : (p.leases.map fun l => if l.1 == id then (id, true) else l).map (·.1) = p.leases.map (·.1) := by
      rw [List.map_map]
      refine List.map_congr_left fun l _ => ?_
      show (if l.1 == id then (id, true) else l).1 = l.1
      split
      · next he => exact (beq_iff_eq.1 he).symm
      · rfl
    exact .same (hL ▸ List.Subset.refl _)
  | case9 id x handed _ =>
    have hL := List.map_subset (·.1) (List.filter_sublist (p := fun l => l.1 != id) (l := p.leases)).subset
    cases handed
    · exact .release hL id
    · exact .same hL
  | case10 id => exact .release (List.Subset.refl _) id
  | _ => exact hsame

section Move
variable {p : Pool} {r : Pool × Option Nat}

theorem Pool.Move.used_length (h : p.Move r) : r.1.used.length = p.used.length := by
  cases h with
  | same => rfl
  | take => exact List.length_set
  | release _ id => exact Pool.release_used_length _ id

theorem Pool.Move.consistent (h : p.Move r) (hc : p.Consistent) : r.1.Consistent := by
  cases h with
  | same => exact hc
  | take hf => exact ConsL.take (hf ▸ hc : ConsL p.used (_ :: _))
  | @release L _ id => exact Pool.release_consistent (p := { p with leases := L }) hc id

theorem Pool.Move.some (h : p.Move r) (hc : p.Consistent) {id : Nat} (hr : r.2 = some id) :
    id ∈ p.free ∧ r.1.used[id]? = some true ∧ id ∉ r.1.free := by
  cases h with
  | take hf =>
    cases hr
    have hm : id ∈ p.free := hf ▸ List.mem_cons_self
    exact ⟨hm, List.getElem?_set_self (hc.2.1 id hm).1, (List.nodup_cons.1 (hf ▸ hc.1)).1⟩
  | _ => cases hr

theorem Pool.Move.leases (h : p.Move r) (hc : p.Consistent) (hl : ∀ id ∈ p.leases.map (·.1), id < p.used.length) :
    ∀ id ∈ r.1.leases.map (·.1), id < r.1.used.length := by
  intro id hid
  rw [h.used_length]
  cases h with
  | same hL => exact hl id (hL hid)
  | take hf hL =>
    rcases List.mem_cons.1 (hL hid) with rfl | hm
    · exact (hc.2.1 id (hf ▸ List.mem_cons_self)).1
    · exact hl id hm
  | release hL id' =>
    rw [Pool.release_leases] at hid
    exact hl id (hL hid)

end Move

theorem Pool.run_used_length (p : Pool) (evs : List PoolEv) : (p.run evs).used.length = p.used.length :=
  List.foldlRecOn evs _ (motive := fun q : Pool => q.used.length = p.used.length) rfl
    fun q hq e _ => (q.step_move e).used_length.trans hq

theorem Pool.new_used_length_le (count cap : Nat) : (Pool.new count cap).used.length ≤ count := by
  unfold Pool.new
  split <;> simp

theorem Pool.reachable (count cap : Nat) (evs : List PoolEv) :
    ((Pool.new count cap).run evs).Consistent
    ∧ ∀ id ∈ ((Pool.new count cap).run evs).leases.map (·.1), id < ((Pool.new count cap).run evs).used.length := by
  refine List.foldlRecOn evs _
    (motive := fun p : Pool => p.Consistent ∧ ∀ id ∈ p.leases.map (·.1), id < p.used.length) ?_
    fun p hp e _ => ⟨(p.step_move e).consistent hp.1, (p.step_move e).leases hp.1 hp.2⟩
  unfold Pool.new
  split
  · exact ⟨⟨List.nodup_nil, nofun, nofun⟩, nofun⟩
  · refine ⟨⟨List.nodup_range, fun id h => ?_, fun id h _ => ?_⟩, nofun⟩
    · have := List.mem_range.mp h
      simp [this]
    · simpa using h

theorem find?_of_mem_of_filter_length_one {leases : List (Nat × Bool)} {id : Nat} {b : Bool} (h : (id, b) ∈ leases)
    (huniq : (leases.filter (·.1 == id)).length = 1) : leases.find? (·.1 == id) = some (id, b) := by
  obtain ⟨x, hx⟩ := List.length_eq_one_iff.1 huniq
  have hm : (id, b) ∈ leases.filter (·.1 == id) := List.mem_filter.2 ⟨h, beq_self_eq_true id⟩
  rw [hx, List.mem_singleton] at hm
  rw [← List.head?_filter, hx, hm]
  rfl

theorem Pool.step_dropLease {p : Pool} {id : Nat} {b : Bool} (h : (id, b) ∈ p.leases)
    (huniq : (p.leases.filter (·.1 == id)).length = 1) :
    (p.step (.dropLease id)).1
      = if b then { p with leases := p.leases.filter (·.1 != id) }
        else ({ p with leases := p.leases.filter (·.1 != id) } : Pool).release id := by
  simp only [Pool.step, find?_of_mem_of_filter_length_one h huniq]

/-- the statement of `C20.dropped_lease_returns_buffer` for an arbitrary consistent pool in place of a reachable one is
FALSE: `Consistent` says nothing about the leases, so a lease may name a buffer the pool does not have, and
`release_buffer` ignores such an id.  Minimal counterexample: the empty pool holding the lease `(0, false)`. -/
theorem dropped_lease_returns_buffer_counterexample :
    ¬ ∀ (p : Pool), p.Consistent → ∀ id : Nat, (id, false) ∈ p.leases →
        (p.leases.filter (·.1 == id)).length = 1 → id ∈ (p.step (.dropLease id)).1.free := by
  intro hall
  have := hall { leases := [(0, false)] } ⟨List.nodup_nil, nofun, nofun⟩ 0 (by decide) (by decide)
  revert this
  decide

/-- the true variant: the lease must name a buffer of the pool (`id < p.used.length`); consistency is then not even needed -/
theorem dropped_lease_returns_buffer_partial (p : Pool) (id : Nat) (hid : id < p.used.length)
    (h : (id, false) ∈ p.leases) (huniq : (p.leases.filter (·.1 == id)).length = 1) :
    id ∈ (p.step (.dropLease id)).1.free := by
  rw [Pool.step_dropLease h huniq]
  exact Pool.mem_free_release (p := { p with leases := p.leases.filter (·.1 != id) }) hid

/-- the added hypothesis is exactly what is missing: for a consistent pool the buffer comes back iff it exists -/
theorem dropped_lease_returns_buffer_iff (p : Pool) (hc : p.Consistent) (id : Nat)
    (h : (id, false) ∈ p.leases) (huniq : (p.leases.filter (·.1 == id)).length = 1) :
    id ∈ (p.step (.dropLease id)).1.free ↔ id < p.used.length := by
  refine ⟨fun hm => ?_, fun hid => dropped_lease_returns_buffer_partial p id hid h huniq⟩
  rw [Pool.step_dropLease h huniq] at hm
  have hc' := Pool.release_consistent (p := { p with leases := p.leases.filter (·.1 != id) }) hc id
  have := (hc'.2.1 id hm).1
  rwa [Pool.release_used_length] at this

end Rzmq
