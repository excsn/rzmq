import RzmqModel.Model.Multipart
import RzmqModel.Proofs.Assoc
/-!
Lemmas for C02 (multipart messages stay whole).

`WholeMsg` and the sender's `normaliseMore` are used through their cons equations.  The receiving socket is covered by
two invariants of `Stash.step`, each proved branch by branch over the step function's case principle: `StashInv` (queues
hold whole messages, the stash is the rest of one message, frames returned followed by the stash are the taken messages,
`recv_multipart` results end a message), whose branches are combinations of the three moves `load`, `give_frame` and
`give_rest`; and `FifoInv` (per-pipe FIFO), which only `put` and `pop` touch.  (What the receiving session delivers is
whole too: `BatchInv` in `Proofs/EngineRun.lean`.)
-/
namespace Rzmq

theorem wholeMsg_cons (f : Frame) (rest : List Frame) :
    WholeMsg (f :: rest) ↔ (rest = [] ∧ f.more = false) ∨ (rest ≠ [] ∧ f.more = true ∧ WholeMsg rest) := by
  cases rest with
  | nil => simp [WholeMsg]
  | cons g r => simp [WholeMsg, List.getLast?_cons_cons, and_assoc]

theorem wholeMsg_snoc {pb : List Frame} {f : Frame} (h : ∀ g ∈ pb, g.more = true) (hf : f.more = false) :
    WholeMsg (pb ++ [f]) := by
  refine ⟨by simp, ?_, ?_⟩
  · simpa [List.dropLast_concat] using h
  · intro g hg
    rw [List.getLast?_concat, Option.some.injEq] at hg
    exact hg ▸ hf

theorem normaliseMore_cons (f : Frame) (rest : List Frame) :
    normaliseMore (f :: rest) = { f with more := !rest.isEmpty } :: normaliseMore rest := by
  cases rest <;> simp [normaliseMore, List.mapIdx_cons]

theorem takeMessage_whole : ∀ (c : List Frame), WholeMsg c → takeMessage c = (c, [])
  | [], h => absurd rfl h.1
  | f :: rest, h => by
    rcases (wholeMsg_cons f rest).mp h with ⟨rfl, hf⟩ | ⟨_, hf, hr⟩
    · simp [takeMessage, hf]
    · simp [takeMessage, hf, takeMessage_whole rest hr]

theorem queueOf_setQueue (s : Stash) (p p' : Nat) (q : List Message) :
    (s.setQueue p q).queueOf p' = if p' = p then q else s.queueOf p' :=
  pcOf_setL ..

theorem pop_spec {s s' : Stash} {m : Message} (h : s.pop = some (m, s')) :
    ∃ p q rdy, s.queueOf p = m :: q ∧
      s' = { s.setQueue p q with ready := rdy, taken := s.taken ++ [m], takenFrom := s.takenFrom ++ [(p, m)] } := by
  revert h
  fun_cases Stash.pop s
  · nofun
  · nofun
  next p rest _ m' q hq _ =>
    rintro ⟨⟩
    exact ⟨p, q, _, hq, rfl⟩

theorem pop_cache {s s' : Stash} {m : Message} (h : s.pop = some (m, s')) : s'.cache = s.cache := by
  obtain ⟨p, q, rdy, -, rfl⟩ := pop_spec h
  rfl

structure StashInv (s : Stash) : Prop where
  cfg : s.cfg = {}
  queues : ∀ pq ∈ s.pipes, ∀ m ∈ pq.2, WholeMsg m
  cache : ∀ c, s.cache = some c → WholeMsg c
  contig : s.returned ++ s.stashed = s.taken.flatten
  mp : ∀ r ∈ s.mpResults, WholeMsg r

theorem setQueue_queues {s : Stash} (h : ∀ pq ∈ s.pipes, ∀ m ∈ pq.2, WholeMsg m) (p : Nat) (q : List Message)
    (hq : ∀ m ∈ q, WholeMsg m) : ∀ pq ∈ (s.setQueue p q).pipes, ∀ m ∈ pq.2, WholeMsg m :=
  List.forall_mem_append.2 ⟨fun pq hpq => h pq (List.mem_filter.1 hpq).1, List.forall_mem_singleton.2 hq⟩

theorem queueOf_mem {s : Stash} {p : Nat} {m : Message} (h : m ∈ s.queueOf p) : ∃ pq ∈ s.pipes, m ∈ pq.2 := by
  unfold Stash.queueOf at h
  cases hf : s.pipes.find? (·.1 == p) with
  | none => simp [hf] at h
  | some pq => exact ⟨pq, List.mem_of_find?_eq_some hf, by simpa [hf] using h⟩

theorem queueOf_whole {s : Stash} (h : ∀ pq ∈ s.pipes, ∀ m ∈ pq.2, WholeMsg m) (p : Nat) :
    ∀ m ∈ s.queueOf p, WholeMsg m := fun m hm =>
  have ⟨pq, hpq, hm'⟩ := queueOf_mem hm
  h pq hpq m hm'

theorem StashInv.init : StashInv {} := by
  refine ⟨rfl, ?_, ?_, rfl, ?_⟩ <;> simp

theorem StashInv.cache_none {s : Stash} (hi : StashInv s) (h : ∀ f rest, s.cache = some (f :: rest) → False) :
    s.cache = none := by
  cases hc : s.cache with
  | none => rfl
  | some c =>
    cases c with
    | nil => exact absurd rfl (hi.cache _ hc).1
    | cons f rest => exact (h f rest hc).elim

theorem StashInv.load {s s' : Stash} {m : Message} (hi : StashInv s) (hc : s.cache = none) (h : s.pop = some (m, s')) :
    StashInv { s' with cache := some m } := by
  obtain ⟨p, q, rdy, hq, rfl⟩ := pop_spec h
  have hw := queueOf_whole hi.queues p
  rw [hq] at hw
  refine ⟨hi.cfg, setQueue_queues hi.queues p q fun m' hm' => hw m' (List.mem_cons_of_mem _ hm'), ?_, ?_, hi.mp⟩
  · rintro c hc
    cases hc
    exact hw m List.mem_cons_self
  · simpa [Stash.stashed, Stash.setQueue, hc] using hi.contig

/-- `o` is the rest of the stashed message, as the cache holds it -/
theorem StashInv.give_frame {b : Stash} {f : Frame} {rest : List Frame} (h : StashInv { b with cache := some (f :: rest) })
    {o : Option (List Frame)} (ho : o = if rest.isEmpty then none else some rest) :
    StashInv { b with cache := o, returned := b.returned ++ [f] } := by
  subst ho
  have hct : b.returned ++ f :: rest = b.taken.flatten := h.contig
  rcases (wholeMsg_cons f rest).mp (h.cache _ rfl) with ⟨rfl, _⟩ | ⟨hne, _, hr⟩
  · exact ⟨h.cfg, h.queues, nofun, by simpa [Stash.stashed] using hct, h.mp⟩
  · have hie : rest.isEmpty = false := by simpa using hne
    refine ⟨h.cfg, h.queues, ?_, by simpa [Stash.stashed, hie] using hct, h.mp⟩
    rintro c hc
    simp only [hie] at hc
    cases hc
    exact hr

theorem StashInv.give_rest {b : Stash} {c : List Frame} (h : StashInv { b with cache := some c }) :
    StashInv { b with cache := none, returned := b.returned ++ c, mpResults := b.mpResults ++ [c] } := by
  have hct : b.returned ++ c = b.taken.flatten := h.contig
  refine ⟨h.cfg, h.queues, nofun, by simpa [Stash.stashed] using hct, ?_⟩
  exact List.forall_mem_append.2 ⟨h.mp, List.forall_mem_singleton.2 (h.cache _ rfl)⟩

theorem StashInv.step {s : Stash} (hi : StashInv s) (e : StashEv) (he : ∀ p m, e = .put p m → WholeMsg m) :
    StashInv (s.step e).1 := by
  fun_cases Stash.step s e
  -- register
  next => exact ⟨hi.cfg, hi.queues, hi.cache, hi.contig, hi.mp⟩
  -- put: unknown pipe, queue full, queued
  next => exact hi
  next => exact hi
  next =>
    refine ⟨hi.cfg, setQueue_queues hi.queues _ _ ?_, hi.cache, hi.contig, hi.mp⟩
    exact List.forall_mem_append.2 ⟨queueOf_whole hi.queues _, List.forall_mem_singleton.2 (he _ _ rfl)⟩
  -- recv: a frame of the stashed message
  next f rest hc => exact StashInv.give_frame (hc ▸ hi) rfl
  -- recv with nothing stashed: the queue is empty, or the next message (of 0, 1 or more frames) is loaded and its first
  -- frame handed out
  next _ hcn => exact hi.cache_none hcn ▸ hi
  next s' hcn hp => exact absurd rfl ((hi.load (hi.cache_none hcn) hp).cache _ rfl).1
  next s' f hcn hp => exact (hi.load (hi.cache_none hcn) hp).give_frame rfl
  next s' f rest hne hcn hp => exact (hi.load (hi.cache_none hcn) hp).give_frame (by simpa using hne)
  -- recvMultipart (`mpUsesStash` is on): the rest of the stashed message
  next f rest hc r =>
    rw [hi.cfg, if_pos rfl] at hc
    have hr : r = (f :: rest, []) := takeMessage_whole _ (hi.cache _ hc)
    rw [hr]
    exact StashInv.give_rest (hc ▸ hi)
  -- recvMultipart with nothing stashed: the queue is empty, or the next message is handed out whole
  next => exact hi
  next m s' hp hcn =>
    rw [hi.cfg, if_pos rfl] at hcn
    have hc := hi.cache_none hcn
    rw [show s'.cache = none from (pop_cache hp).trans hc]
    exact (hi.load hc hp).give_rest
  -- detach (`keepOnDetach` is on)
  next =>
    rw [show s.cfg.keepOnDetach = true by rw [hi.cfg], if_pos rfl]
    exact ⟨hi.cfg, hi.queues, hi.cache, hi.contig, hi.mp⟩

theorem StashInv.run (evs : List StashEv) {s : Stash} (hi : StashInv s) (h : ∀ p m, StashEv.put p m ∈ evs → WholeMsg m) :
    StashInv (s.run evs) :=
  List.foldlRecOn evs _ hi fun _ ht e he => ht.step e fun p m hpm => h p m (hpm ▸ he)

def onPipe (p : Nat) (l : List (Nat × Message)) : List Message := (l.filter (·.1 == p)).map (·.2)

theorem onPipe_concat (p' : Nat) (l : List (Nat × Message)) (p : Nat) (m : Message) :
    onPipe p' (l ++ [(p, m)]) = onPipe p' l ++ if p' = p then [m] else [] := by
  by_cases h : p' = p
  · simp [onPipe, List.filter_append, h]
  · simp [onPipe, List.filter_append, h, Ne.symm h]

def FifoInv (s : Stash) : Prop := ∀ p, onPipe p s.takenFrom ++ s.queueOf p = onPipe p s.accepted

theorem FifoInv.init : FifoInv {} := fun _ => rfl

theorem FifoInv.pop {s s' : Stash} {m : Message} (hi : FifoInv s) (h : s.pop = some (m, s')) : FifoInv s' := by
  obtain ⟨p, q, rdy, hq, rfl⟩ := pop_spec h
  intro p'
  show onPipe p' (s.takenFrom ++ [(p, m)]) ++ (s.setQueue p q).queueOf p' = onPipe p' s.accepted
  rw [onPipe_concat, queueOf_setQueue, ← hi p']
  split
  · subst p'
    simp [hq]
  · rw [List.append_nil]

theorem FifoInv.step {s : Stash} (hi : FifoInv s) (e : StashEv) : FifoInv (s.step e).1 := by
  fun_cases Stash.step s e
  -- `put` queues the message
  case case4 p m _ _ _ _ _ _ =>
    intro p'
    show onPipe p' s.takenFrom ++ (s.setQueue p (s.queueOf p ++ [m])).queueOf p' = onPipe p' (s.accepted ++ [(p, m)])
    rw [onPipe_concat, queueOf_setQueue, ← hi p']
    split
    · subst p'
      rw [List.append_assoc]
    · rw [List.append_nil]
  -- every other branch takes a message with `pop`, or leaves the queues, `takenFrom` and `accepted` as they are
  all_goals first | exact (hi.pop ‹s.pop = some _› :) | exact hi

theorem FifoInv.run (evs : List StashEv) {s : Stash} (hi : FifoInv s) : FifoInv (s.run evs) :=
  List.foldlRecOn evs _ hi fun _ ht e _ => ht.step e

end Rzmq
