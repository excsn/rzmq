import RzmqModel.Model.Routing
/-! The subscription trie (C12): everything observable of a trie (`matches`, `topics`; the result of `unsubscribe`:
`C12.unsubscribe_result`) is a function of the counts `countAt`, and `subscribe`/`unsubscribe` change exactly one count. -/
namespace Rzmq

theorem childLookup_cons (k : UInt8) (t : Trie) (ch : List (UInt8 × Trie)) (b : UInt8) :
    childLookup ((k, t) :: ch) b = if k = b then some t else childLookup ch b := by
  simp [childLookup]

theorem childLookup_upsert (ch : List (UInt8 × Trie)) (b b' : UInt8) (f : Trie → Trie) :
    childLookup (childUpsert ch b f) b' =
      if b = b' then some (f ((childLookup ch b).getD Trie.empty)) else childLookup ch b' := by
  induction ch with
  | nil => exact childLookup_cons ..
  | cons hd tl ih => grind [childUpsert, childLookup_cons]

/-- replacing a child that exists is an upsert, so `childReplace` needs no lemmas of its own -/
theorem childReplace_eq_upsert (ch : List (UInt8 × Trie)) (b : UInt8) (t t' : Trie) (h : childLookup ch b = some t) :
    childReplace ch b t' = childUpsert ch b fun _ => t' := by
  induction ch with
  | nil => cases h
  | cons hd tl ih =>
    obtain ⟨k, s⟩ := hd
    rw [childReplace, childUpsert]
    split
    · rfl
    next hk => rw [ih (by rwa [childLookup, if_neg hk] at h)]

theorem unsubscribe_nil_fst (c : Nat) (ch : List (UInt8 × Trie)) :
    ((Trie.node c ch).unsubscribe []).1 = .node (c - 1) ch := by
  rw [Trie.unsubscribe]
  split
  · rfl
  next h => rw [Nat.eq_zero_of_not_pos h]

theorem unsubscribe_cons (b : UInt8) (rest : List UInt8) (c : Nat) (ch : List (UInt8 × Trie)) :
    (Trie.node c ch).unsubscribe (b :: rest) = match childLookup ch b with
      | none => (.node c ch, false)
      | some t => (.node c (childUpsert ch b fun _ => (t.unsubscribe rest).1), (t.unsubscribe rest).2) := by
  cases hl : childLookup ch b with
  | none => simp [Trie.unsubscribe, hl]
  | some t => simp [Trie.unsubscribe, hl, childReplace_eq_upsert ch b t _ hl]

theorem countAt_empty (q : List UInt8) : Trie.empty.countAt q = 0 := by
  cases q <;> rfl

theorem countAt_cons (c : Nat) (ch : List (UInt8 × Trie)) (b : UInt8) (q : List UInt8) :
    (Trie.node c ch).countAt (b :: q) = ((childLookup ch b).getD Trie.empty).countAt q := by
  rw [Trie.countAt]
  cases childLookup ch b with
  | none => exact (countAt_empty q).symm
  | some t => rfl

theorem Trie.countAt_subscribe (p q : List UInt8) (t : Trie) :
    (t.subscribe p).countAt q = t.countAt q + (if p = q then 1 else 0) := by
  induction p generalizing q t with
  | nil =>
    obtain ⟨c, ch⟩ := t
    cases q <;> rfl
  | cons b rest ih =>
    obtain ⟨c, ch⟩ := t
    cases q with
    | nil => rfl
    | cons b' rest' =>
      rw [Trie.subscribe, countAt_cons, childLookup_upsert, countAt_cons]
      by_cases hb : b = b'
      · subst hb
        rw [if_pos rfl, Option.getD_some, ih]
        simp only [List.cons.injEq, true_and]
      · rw [if_neg hb, if_neg (fun h => hb (List.cons.inj h).1)]
        rfl

theorem Trie.countAt_unsubscribe (p q : List UInt8) (t : Trie) :
    (t.unsubscribe p).1.countAt q = t.countAt q - (if p = q then 1 else 0) := by
  induction p generalizing q t with
  | nil =>
    obtain ⟨c, ch⟩ := t
    rw [unsubscribe_nil_fst]
    cases q <;> rfl
  | cons b rest ih =>
    obtain ⟨c, ch⟩ := t
    rw [unsubscribe_cons]
    cases q with
    | nil => split <;> rfl
    | cons b' rest' =>
      cases hl : childLookup ch b with
      | none =>
        simp only
        split
        next h =>
          rw [Trie.countAt, ← (List.cons.inj h).1, hl]
          rfl
        · rfl
      | some t' =>
        simp only
        rw [countAt_cons, childLookup_upsert, countAt_cons]
        by_cases hb : b = b'
        · subst hb
          rw [if_pos rfl, Option.getD_some, hl, Option.getD_some, ih]
          simp only [List.cons.injEq, true_and]
        · rw [if_neg hb, if_neg (fun h => hb (List.cons.inj h).1)]
          rfl

theorem exists_prefix_cons {α : Type} (a : α) (l : List α) (P : List α → Prop) :
    (∃ p, p <+: a :: l ∧ P p) ↔ P [] ∨ ∃ p, p <+: l ∧ P (a :: p) := by
  simp only [List.prefix_cons_iff]
  constructor
  · rintro ⟨p, rfl | ⟨p', rfl, hp'⟩, h⟩
    · exact Or.inl h
    · exact Or.inr ⟨p', hp', h⟩
  · rintro (h | ⟨p, hp, h⟩)
    · exact ⟨[], Or.inl rfl, h⟩
    · exact ⟨a :: p, Or.inr ⟨p, rfl, hp⟩, h⟩

theorem Trie.matches_iff (msg : List UInt8) (t : Trie) :
    t.matches msg = true ↔ ∃ p, p <+: msg ∧ 0 < t.countAt p := by
  induction msg generalizing t with
  | nil =>
    obtain ⟨c, ch⟩ := t
    simp [Trie.matches, Trie.countAt]
  | cons b rest ih =>
    obtain ⟨c, ch⟩ := t
    rw [exists_prefix_cons, Trie.matches]
    split
    next hc => exact iff_of_true rfl (Or.inl hc)
    next hc =>
      refine Iff.trans ?_ (or_iff_right hc).symm
      simp only [Trie.countAt]
      cases childLookup ch b with
      | none => simp
      | some t' => exact ih t'

theorem matches_congr {t t' : Trie} (h : ∀ p, t.countAt p = t'.countAt p) (msg : List UInt8) :
    t.matches msg = t'.matches msg := by
  rw [Bool.eq_iff_iff, Trie.matches_iff, Trie.matches_iff]
  simp only [h]

theorem foldl_apply_countAt (h : List SubOp) (t : Trie) (p : List UInt8) :
    (h.foldl Trie.apply t).countAt p = absCountFrom p (t.countAt p) h := by
  induction h generalizing t with
  | nil => rfl
  | cons op rest ih =>
    rw [List.foldl_cons, ih]
    cases op with
    | sub q =>
      rw [absCountFrom, Trie.apply, Trie.countAt_subscribe]
      split <;> rfl
    | unsub q =>
      rw [absCountFrom, Trie.apply, Trie.countAt_unsubscribe]
      split <;> rfl

/-! `topics` walks every child entry while `childLookup` sees only the first entry of a key, so `topics` agrees with the
counts only when no key occurs twice, at any depth (`Trie.wf`). -/

mutual
def Trie.wf : Trie → Bool
  | .node _ ch => Trie.wfCh ch
def Trie.wfCh : List (UInt8 × Trie) → Bool
  | [] => true
  | (b, t) :: rest => (childLookup rest b).isNone && t.wf && Trie.wfCh rest
end

theorem wf_empty : Trie.empty.wf = true := rfl

theorem wfCh_lookup (ch : List (UInt8 × Trie)) (b : UInt8) (t : Trie) (h : Trie.wfCh ch = true)
    (hl : childLookup ch b = some t) : t.wf = true := by
  induction ch with
  | nil => cases hl
  | cons hd tl ih =>
    obtain ⟨k, t'⟩ := hd
    simp only [Trie.wfCh, Bool.and_eq_true] at h
    rw [childLookup_cons] at hl
    split at hl
    · cases hl; exact h.1.2
    · exact ih h.2 hl

theorem wfCh_upsert (ch : List (UInt8 × Trie)) (b : UInt8) (f : Trie → Trie)
    (hf : ∀ t, t.wf = true → (f t).wf = true) (h : Trie.wfCh ch = true) :
    Trie.wfCh (childUpsert ch b f) = true := by
  induction ch with
  | nil => simp [childUpsert, Trie.wfCh, childLookup, hf _ wf_empty]
  | cons hd tl ih =>
    obtain ⟨k, t⟩ := hd
    simp only [Trie.wfCh, Bool.and_eq_true] at h
    obtain ⟨⟨h1, h2⟩, h3⟩ := h
    by_cases hk : k = b
    · subst hk
      simp [childUpsert, Trie.wfCh, h1, hf _ h2, h3]
    · simp [childUpsert, hk, Trie.wfCh, childLookup_upsert, Ne.symm hk, h1, h2, ih h3]

theorem wf_subscribe (p : List UInt8) (t : Trie) (h : t.wf = true) : (t.subscribe p).wf = true := by
  induction p generalizing t with
  | nil =>
    obtain ⟨c, ch⟩ := t
    exact h
  | cons b rest ih =>
    obtain ⟨c, ch⟩ := t
    exact wfCh_upsert ch b _ ih h

theorem wf_unsubscribe (p : List UInt8) (t : Trie) (h : t.wf = true) : (t.unsubscribe p).1.wf = true := by
  induction p generalizing t with
  | nil =>
    obtain ⟨c, ch⟩ := t
    rw [unsubscribe_nil_fst]
    exact h
  | cons b rest ih =>
    obtain ⟨c, ch⟩ := t
    rw [unsubscribe_cons]
    split
    · exact h
    next t' hl => exact wfCh_upsert ch b _ (fun _ _ => ih t' (wfCh_lookup ch b t' h hl)) h

theorem wf_foldl (h : List SubOp) (t : Trie) (ht : t.wf = true) : (h.foldl Trie.apply t).wf = true := by
  refine List.foldlRecOn (motive := fun t => t.wf = true) h Trie.apply ht fun t ht op _ => ?_
  cases op with
  | sub q => exact wf_subscribe q t ht
  | unsub q => exact wf_unsubscribe q t ht

theorem count_map_cons (b b' : UInt8) (p : List UInt8) (l : List (List UInt8)) :
    (l.map (b' :: ·)).count (b :: p) = if b' = b then l.count p else 0 := by
  split
  next hb =>
    subst hb
    induction l with
    | nil => rfl
    | cons x xs ih => simp [List.count_cons, ih]
  next hb => exact List.count_eq_zero.2 (by simp [hb])

theorem nil_not_mem_topicsCh (ch : List (UInt8 × Trie)) : [] ∉ Trie.topicsCh ch := by
  induction ch with
  | nil => simp [Trie.topicsCh]
  | cons hd tl ih => simp [Trie.topicsCh, ih]

theorem count_cons_topicsCh (ch : List (UInt8 × Trie)) (b : UInt8) (rest : List UInt8) (h : Trie.wfCh ch = true) :
    (Trie.topicsCh ch).count (b :: rest) = match childLookup ch b with
      | none => 0
      | some t => t.topics.count rest := by
  induction ch with
  | nil => rfl
  | cons hd tl ih =>
    obtain ⟨k, t⟩ := hd
    simp only [Trie.wfCh, Bool.and_eq_true] at h
    rw [Trie.topicsCh, List.count_append, count_map_cons, ih h.2, childLookup_cons]
    split
    next hk =>
      -- the key of the head does not occur in the tail
      have : childLookup tl b = none := by simpa [hk] using h.1.1
      rw [this]
      rfl
    · exact Nat.zero_add _

theorem count_topics (p : List UInt8) (t : Trie) (h : t.wf = true) :
    t.topics.count p = if 0 < t.countAt p then 1 else 0 := by
  induction p generalizing t with
  | nil =>
    obtain ⟨c, ch⟩ := t
    rw [Trie.topics, List.count_append, List.count_eq_zero.2 (nil_not_mem_topicsCh ch), Trie.countAt]
    split <;> rfl
  | cons b rest ih =>
    obtain ⟨c, ch⟩ := t
    have h0 : (if c > 0 then [[]] else ([] : List (List UInt8))).count (b :: rest) = 0 := by
      split <;> rfl
    rw [Trie.topics, List.count_append, h0, count_cons_topicsCh ch b rest h, Trie.countAt, Nat.zero_add]
    cases hl : childLookup ch b with
    | none => rfl
    | some t' => exact ih t' (wfCh_lookup ch b t' h hl)

theorem mem_topics_iff (p : List UInt8) (t : Trie) (h : t.wf = true) :
    p ∈ t.topics ↔ 0 < t.countAt p := by
  rw [← List.count_pos_iff, count_topics p t h]
  split <;> simp [*]

theorem topics_nodup_of_wf (t : Trie) (h : t.wf = true) : t.topics.Nodup := by
  rw [List.nodup_iff_count]
  intro p
  rw [count_topics p t h]
  split <;> omega

end Rzmq
