import RzmqModel.Model.Engine
import RzmqModel.Proofs.Wire
/-!
What the engine's parsers make of what its own encoders produce, and the frame limit of the handshake: the facts about
the engine that do not involve `step`.  The handshake limit `hsLimit` is MAXMSGSIZE raised to `HANDSHAKE_FRAME_LIMIT`
(`hsLimit_spec`); a command frame decodes to itself (`decode_cmd`); the READY command an endpoint builds from its
configuration parses back to the properties it was built from (`parseProps_encode`, `parseCmd_readyBody`) and
`parseProps` accepts only what `encodeProps` produces (`parseProps_sound'`); a PLAIN HELLO parses back to its credentials
(`parseHello_helloBody`).
-/
namespace Rzmq

variable {cfg : Cfg}

theorem hsLimit_spec (cfg : Cfg) :
    (cfg.maxMsgSize < 0 ∧ hsLimit cfg = -1) ∨
      (0 ≤ cfg.maxMsgSize ∧ hsLimit cfg = max cfg.maxMsgSize Gen.HANDSHAKE_FRAME_LIMIT) := by
  unfold hsLimit
  -- the limit is in force (`Gen.HANDSHAKE_FRAME_LIMIT ≠ 0`)
  rw [if_neg (by decide)]
  split
  · exact .inl ⟨‹_›, rfl⟩
  · refine .inr ⟨by omega, ?_⟩
    split <;> omega

theorem hsLimit_of_nat {m : Nat} (hm : cfg.maxMsgSize = (m : Int)) :
    hsLimit cfg = ((max m Gen.HANDSHAKE_FRAME_LIMIT : Nat) : Int) := by
  have := hsLimit_spec cfg
  omega

theorem exceeds_hsLimit {cfg : Cfg} {raw : Nat} (h : exceeds (hsLimit cfg) raw = true) :
    exceeds cfg.maxMsgSize raw = true := by
  simp only [exceeds, Bool.and_eq_true, decide_eq_true_eq] at h ⊢
  have := hsLimit_spec cfg
  omega

/-- whatever MAXMSGSIZE is, a frame within `HANDSHAKE_FRAME_LIMIT` is admitted during the handshake -/
theorem hsLimit_admits {n : Nat} (h : n ≤ Gen.HANDSHAKE_FRAME_LIMIT) : hsLimit cfg < 0 ∨ n ≤ (hsLimit cfg).toNat := by
  have := hsLimit_spec cfg
  omega

theorem decode_cmd (body : Bytes) (hl : body.length < two64)
    (ha : hsLimit cfg < 0 ∨ body.length ≤ (hsLimit cfg).toNat) :
    decodeBuffer (hsLimit cfg) (encodeCodec (cmdFrame body)) = .frame (cmdFrame body) [] := by
  have := decodeBuffer_encode' (hsLimit cfg) (cmdFrame body) [] hl ha
  rwa [List.append_nil] at this

theorem be32_eq_beBytes (n : Nat) : be32 n = beBytes 4 n := by
  simp only [beBytes, be32, Nat.div_div_eq_div_mul, List.nil_append, List.cons_append, Nat.reduceMul]

theorem ofBe_be32 (n : Nat) (h : n < 4294967296) : ofBe (be32 n) = n := by
  rw [be32_eq_beBytes, ofBe_beBytes]
  exact Nat.mod_eq_of_lt h

theorem parseProps_encode : ∀ (ps : Props) (fuel : Nat), ps.length ≤ fuel →
    (∀ p ∈ ps, p.1.length ≤ 255 ∧ validUtf8 p.1 = true ∧ p.2.length < 4294967296) →
    parseProps fuel (encodeProps ps) = some ps := by
  intro ps
  induction ps with
  | nil => intro fuel _ _; cases fuel <;> rfl
  | cons p ps ih =>
    intro fuel hf hp
    obtain ⟨n, v⟩ := p
    obtain ⟨hn, hu, hv⟩ := hp (n, v) (List.mem_cons_self ..)
    simp only at hn hu hv
    cases fuel with
    | zero => simp at hf
    | succ fuel =>
      have ih' := ih fuel (by simpa using hf) (fun q hq => hp q (List.mem_cons_of_mem _ hq))
      have hnl : (UInt8.ofNat n.length).toNat = n.length := UInt8.toNat_ofNat_of_lt' (Nat.lt_succ_of_le hn)
      simp only [encodeProps, if_neg (show ¬ n.length > 255 by omega), List.cons_append, List.append_assoc,
        parseProps, hnl, List.take_left', List.drop_left', hu]
      have h4 : (be32 v.length).length = 4 := rfl
      have ht : List.take 4 (be32 v.length ++ (v ++ encodeProps ps)) = be32 v.length := List.take_left' h4
      have hd : List.drop 4 (be32 v.length ++ (v ++ encodeProps ps)) = v ++ encodeProps ps := List.drop_left' h4
      simp only [ht, hd, ofBe_be32 _ hv, List.take_left', List.drop_left', ih']
      simp [be32]

/-- the converse, whatever the fuel (`parseCmd` gives the fuel `body.length + 1` for a part of `body`) -/
theorem parseProps_sound' (fuel : Nat) (body : Bytes) (ps : Props) (h : parseProps fuel body = some ps) :
    encodeProps ps = body ∧ ∀ p ∈ ps, validUtf8 p.1 = true ∧ p.1.length ≤ 255 := by
  fun_induction parseProps fuel body generalizing ps
  -- case1: empty body; case8: one property is read and the rest parses; in all others the parser answers `none`
  all_goals try (cases h; done)
  case case1 =>
    cases h
    exact ⟨rfl, by simp⟩
  case case8 nl rest n h1 name r1 h2 h3 vl r2 h4 ps' x ih =>
    cases h
    obtain ⟨ihe, ihv⟩ := ih _ x
    have hnl := nl.toNat_lt
    have hlen : name.length = nl.toNat := by simp only [name, n, List.length_take]; omega
    constructor
    · have hvl : (r2.take vl).length = vl := by simp only [List.length_take]; omega
      simp only [encodeProps, hlen, ihe, hvl]
      rw [if_neg (by omega), be32_eq_beBytes, beBytes_ofBe 4 _ (by simp only [List.length_take]; omega), UInt8.ofNat_toNat]
      simp only [name, n, r1, r2, vl, List.cons_append, List.append_assoc, List.take_append_drop]
    · intro p hp
      rcases List.mem_cons.1 hp with rfl | hp
      · exact ⟨by simpa using h2, Nat.le_of_lt_succ (hlen ▸ hnl)⟩
      · exact ihv p hp

theorem ofBytes_bytes (n : SockName) : SockName.ofBytes n.bytes = n := by
  cases n <;> decide

theorem SockName.bytes_length_le (n : SockName) : n.bytes.length ≤ 6 := by
  cases n <;> decide

theorem localReadyProps_ok (peer : Cfg) (h : peer.routingId.length ≤ 255) :
    ∀ p ∈ localReadyProps peer, p.1.length ≤ 255 ∧ validUtf8 p.1 = true ∧ p.2.length < 4294967296 := by
  have h1 : keyIdentity.length ≤ 255 ∧ validUtf8 keyIdentity = true := by decide
  have h2 : keySocketType.length ≤ 255 ∧ validUtf8 keySocketType = true := by decide
  intro p hp
  simp only [localReadyProps, List.mem_append, List.mem_singleton] at hp
  rcases hp with hp | rfl
  · split at hp
    · cases hp
    · cases List.mem_singleton.mp hp
      exact ⟨h1.1, h1.2, Nat.lt_of_le_of_lt h (by decide)⟩
  · exact ⟨h2.1, h2.2, Nat.lt_of_le_of_lt peer.sockType.bytes_length_le (by decide)⟩

theorem lookup_sockType (peer : Cfg) :
    lookupLast keySocketType (localReadyProps peer) = some peer.sockType.bytes := by
  simp only [localReadyProps]
  split <;> simp [lookupLast]

theorem lookup_identity (peer : Cfg) :
    lookupLast keyIdentity (localReadyProps peer)
      = if peer.routingId.isEmpty then none else some peer.routingId := by
  simp only [localReadyProps]
  have : (keySocketType == keyIdentity) = false := by decide
  split <;> simp [lookupLast, this]

/-- the body of the READY command that `readyBytes` frames -/
def readyBody (peer : Cfg) : Bytes :=
  UInt8.ofNat Gen.readyName.length :: Gen.readyName ++ encodeProps (localReadyProps peer)

theorem readyBytes_eq (peer : Cfg) : readyBytes peer = encodeCodec (cmdFrame (readyBody peer)) := rfl

theorem readyBody_length (peer : Cfg) : (readyBody peer).length = 6 + (encodeProps (localReadyProps peer)).length := by
  simp [readyBody, Gen.readyName]; omega

theorem localReadyProps_length (peer : Cfg) : (localReadyProps peer).length ≤ 2 := by
  simp only [localReadyProps]
  split <;> simp

theorem parseCmd_readyBody (peer : Cfg) (h : peer.routingId.length ≤ 255) :
    parseCmd (readyBody peer) = some (.ready (localReadyProps peer)) := by
  have hp := fun fuel (hf : 2 ≤ fuel) =>
    parseProps_encode (localReadyProps peer) fuel (Nat.le_trans (localReadyProps_length peer) hf) (localReadyProps_ok peer h)
  simp [parseCmd, readyBody, Gen.readyName, Gen.cmdPing, Gen.cmdPong, Gen.cmdReady, Gen.readyPropsOffset,
    Gen.cmdReadyMinLen, List.isPrefixOf, hp]

theorem parseHello_helloBody (u p : Bytes) (hu : u.length ≤ 255) (hp : p.length ≤ 255) :
    parseHello (helloBody u p) = some (u, p) := by
  have h1 : List.take 255 u = u := List.take_of_length_le hu
  have h2 : List.take 255 p = p := List.take_of_length_le hp
  simp only [helloBody, h1, h2, parseHello, List.cons_append, List.length_cons, List.length_append,
    UInt8.toNat_ofNat_of_lt' (Nat.lt_succ_of_le hu), UInt8.toNat_ofNat_of_lt' (Nat.lt_succ_of_le hp), List.take_left',
    List.drop_left']
  rw [if_neg (by omega), if_neg (by omega)]
  simp

end Rzmq
