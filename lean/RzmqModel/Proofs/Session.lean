import RzmqModel.Model.Session
/-!
The two batch-assembly branches differ in how the batch is begun and end in the same top-up from the pipe
(`IsPass.topUp`), so both are one kind of loop pass (`IsPass`).  `SendPath.Step` is the send path with the pass as its
one assembly transition; the invariants (`Step.fifo`, `.bounded`, `.pipe_le`, `.egress`) are proved of it and carried
along a run by `SendPath.run_induction`, the egress buffer operations being taken each against each property a step must
keep.  The receive path (`RecvPath.step_*`, lifted to runs from any state by `RecvPath.run_*`) and `regroup` need no such
preparation: one case analysis each.
-/
namespace Rzmq

theorem takeWhileFits_spec (mc mb : Nat) (batch src : List Message) (total : Nat) :
    ∃ took, (takeWhileFits mc mb batch src total).1 = batch ++ took
       ∧ took ++ (takeWhileFits mc mb batch src total).2.2 = src
       ∧ (batch.length ≤ mc → (takeWhileFits mc mb batch src total).1.length ≤ mc) := by
  -- `case3` is the branch that takes a message and goes on; the others stop (source empty, no fit, count reached)
  fun_induction takeWhileFits mc mb batch src total with
  | case3 batch m rest total hlt _ ih =>
    obtain ⟨took, h1, h2, h3⟩ := ih
    exact ⟨m :: took, by simp [h1], by simp [h2], fun _ => h3 (List.length_append ▸ hlt)⟩
  | _ => exact ⟨[], by simp⟩

theorem acceptDrained_spec (mb : Nat) (batch src : List Message) (total : Nat) :
    ∃ took, (acceptDrained mb batch src total).1 = batch ++ took ∧ took ++ (acceptDrained mb batch src total).2 = src := by
  fun_induction acceptDrained mb batch src total with
  | case3 batch m rest total _ ih =>
    obtain ⟨took, h1, h2⟩ := ih
    exact ⟨m :: took, by simp [h1], by simp [h2]⟩
  | _ => exact ⟨[], by simp⟩

/-- the loop invariant of both drains: only a batch of a single message may exceed the ceiling -/
def Fits (mb : Nat) (batch : List Message) (total : Nat) : Prop :=
  total = (batch.map wireSize).sum ∧ (total ≤ mb ∨ batch.length ≤ 1)

theorem Fits.snoc {mb total : Nat} {batch : List Message} (h : Fits mb batch total) (m : Message)
    (hc : ¬(decide (total + wireSize m > mb) && !batch.isEmpty) = true) :
    Fits mb (batch ++ [m]) (total + wireSize m) := by
  refine ⟨by simp [h.1], ?_⟩
  cases batch with
  | nil => exact Or.inr (Nat.le_refl 1)
  | cons _ _ => exact Or.inl (by simpa using hc)

theorem takeWhileFits_fits (mc mb : Nat) (batch src : List Message) (total : Nat) (h : Fits mb batch total) :
    Fits mb (takeWhileFits mc mb batch src total).1 (takeWhileFits mc mb batch src total).2.1 := by
  fun_induction takeWhileFits mc mb batch src total with
  | case3 _ m _ _ _ hc ih => exact ih (h.snoc m hc)
  | _ => exact h

theorem acceptDrained_fits (mb : Nat) (batch src : List Message) (total : Nat) (h : Fits mb batch total) :
    ((acceptDrained mb batch src total).1.map wireSize).sum ≤ mb ∨ (acceptDrained mb batch src total).1.length ≤ 1 := by
  fun_induction acceptDrained mb batch src total with
  | case3 _ m _ _ hc ih => exact ih (h.snoc m hc)
  | _ => exact h.1 ▸ h.2

theorem needed_le (cfg : BatchCfg) (mc startLen total : Nat) :
    needed cfg mc startLen total ≤ mc - startLen := by
  unfold needed
  split
  · exact Nat.min_le_left _ _
  · exact Nat.zero_le _

theorem maxCount_pos (cfg : BatchCfg) (pending : Nat) (hc : 1 ≤ cfg.count) : 1 ≤ maxCount cfg pending := by
  unfold maxCount
  omega

/-- what a pass over carry-over and pipe guarantees, whichever branch built it -/
structure IsPass (cfg : BatchCfg) (pending : Nat) (carry pipe : List Message) (a : Assembled) : Prop where
  conserves : a.batch ++ a.carry ++ a.pipe = carry ++ pipe
  count : 1 ≤ cfg.count → a.batch.length ≤ maxCount cfg pending
  bytes : (a.batch.map wireSize).sum ≤ cfg.physical ∨ a.batch.length ≤ 1
  carry_le : a.carry.length ≤ max carry.length cfg.count
  pipe_le : a.pipe.length ≤ pipe.length

/-- Both branches end alike: with `batch` taken from the front and `carry1` left of the carry-over, `want` messages are
drained from the pipe; those that fit join the batch, the others overflow behind `carry1`.  This is a pass provided the
pipe is only asked while nothing is left of the carry-over (so that the overflow does not overtake it), and for no more
than the count limit leaves room for. -/
theorem IsPass.topUp {cfg : BatchCfg} {pending : Nat} {carry pipe batch carry1 pipe1 : List Message} {total want : Nat}
    (hsplit : batch ++ carry1 ++ pipe1 = carry ++ pipe) (hcarry : carry1.length ≤ carry.length)
    (hpipe : pipe1.length ≤ pipe.length) (hfits : Fits cfg.physical batch total)
    (hbatch : 1 ≤ cfg.count → batch.length ≤ maxCount cfg pending)
    (hwant : want ≤ maxCount cfg pending - batch.length) (hempty : want = 0 ∨ carry1 = []) :
    IsPass cfg pending carry pipe
      { batch := (acceptDrained cfg.physical batch (pipe1.take want) total).1,
        carry := carry1 ++ (acceptDrained cfg.physical batch (pipe1.take want) total).2,
        pipe := pipe1.drop want } := by
  have hm : maxCount cfg pending ≤ cfg.count := Nat.min_le_left _ _
  obtain ⟨took, h1, h2⟩ := acceptDrained_spec cfg.physical batch (pipe1.take want) total
  have hl : took.length + (acceptDrained cfg.physical batch (pipe1.take want) total).2.length ≤ want := by
    rw [← List.length_append, h2]
    exact List.length_take_le ..
  refine ⟨?_, fun hc => ?_, acceptDrained_fits _ _ _ _ hfits, ?_, ?_⟩
  · -- the overflow and what is left of the carry-over are not both there, so their order does not matter
    rw [← hsplit]
    rcases hempty with rfl | rfl
    · simp [acceptDrained]
    · simp only [h1, List.nil_append, List.append_nil]
      rw [List.append_assoc batch, h2, List.append_assoc, List.take_append_drop]
  · have := hbatch hc
    simp only [h1, List.length_append]
    omega
  · simp only [List.length_append]
    rcases hempty with rfl | rfl
    · exact Nat.le_trans (by omega) (Nat.le_max_left _ _)
    · exact Nat.le_trans (by rw [List.length_nil]; omega) (Nat.le_max_right _ _)
  · simp only [List.length_drop]
    omega

theorem assembleFromCarry_isPass (cfg : BatchCfg) (pending : Nat) (carry pipe : List Message) :
    IsPass cfg pending carry pipe (assembleFromCarry cfg pending carry pipe) := by
  obtain ⟨took, h1, h2, h3⟩ := takeWhileFits_spec (maxCount cfg pending) cfg.physical [] carry 0
  refine IsPass.topUp (carry1 := (takeWhileFits (maxCount cfg pending) cfg.physical [] carry 0).2.2) ?_ ?_ (Nat.le_refl _)
    (takeWhileFits_fits _ _ _ _ _ ⟨rfl, Or.inl (Nat.zero_le _)⟩) (fun _ => h3 (Nat.zero_le _)) ?_ ?_
  · rw [h1, List.nil_append, h2]
  · exact List.IsSuffix.length_le ⟨took, h2⟩
  · split
    · exact Nat.zero_le _
    · exact needed_le ..
  · -- the pipe is asked only if nothing is left of the carry-over (rests on `Gen.topUpOnlyIfCarryEmpty = 1`)
    cases (takeWhileFits (maxCount cfg pending) cfg.physical [] carry 0).2.2 with
    | nil => exact Or.inr rfl
    | cons _ _ => exact Or.inl rfl

theorem assembleFromPipe_isPass (cfg : BatchCfg) (pending : Nat) (first : Message) (pipe : List Message) :
    IsPass cfg pending [] (first :: pipe) (assembleFromPipe cfg pending first pipe) :=
  IsPass.topUp (carry1 := []) rfl (Nat.le_refl 0) (Nat.le_succ _) ⟨by simp, Or.inr (Nat.le_refl 1)⟩
    (maxCount_pos cfg pending) (needed_le ..) (Or.inr rfl)

theorem advance_zero (fuel : Nat) (e : Egress) : Egress.advance fuel e 0 = e := by
  cases fuel <;> rfl

theorem advance_nil (fuel : Nat) (e : Egress) (n : Nat) (h : e.chunks = []) : Egress.advance fuel e n = e := by
  fun_cases Egress.advance fuel e n with
  | case4 _ _ _ _ _ hc | case5 _ _ _ _ _ hc => exact nomatch h.symm.trans hc
  | _ => rfl

theorem advance_spec (fuel : Nat) (e : Egress) (n : Nat) (hf : e.chunks.length + 1 ≤ fuel) :
    (Egress.advance fuel e n).written = e.written ++ e.pendingBytes.take n
    ∧ (Egress.advance fuel e n).pendingBytes = e.pendingBytes.drop n := by
  -- the branches of `advance`: no fuel, nothing to write, no chunk, head chunk completed (`case4`), write ends inside it
  fun_induction Egress.advance fuel e n with
  | case1 e n => omega
  | case2 fuel e _ => simp
  | case3 fuel e n hc => simp [Egress.pendingBytes, hc]
  | case4 fuel e n h rest hc remaining hge ih =>
    rw [hc] at hf
    obtain ⟨i1, i2⟩ := ih (Nat.le_of_succ_le_succ hf)
    have hp : e.pendingBytes = h.data.drop e.offset ++ (rest.map (·.data)).flatten := by
      simp [Egress.pendingBytes, hc]
    have hl : (h.data.drop e.offset).length ≤ n + 1 := List.length_drop ▸ hge
    rw [i1, i2, hp, List.take_append, List.drop_append, List.take_of_length_le hl, List.drop_of_length_le hl]
    cases rest <;> simp [Egress.pendingBytes, remaining]
  | case5 fuel e n h rest hc remaining hlt =>
    have hl : n + 1 ≤ (h.data.drop e.offset).length := List.length_drop ▸ Nat.le_of_not_ge hlt
    simp only [Egress.pendingBytes, hc]
    rw [List.take_append_of_le_length hl, List.drop_append_of_le_length hl]
    simp

theorem advance_done_chunks (fuel : Nat) (e : Egress) (n : Nat) :
    (Egress.advance fuel e n).done ++ (Egress.advance fuel e n).chunks = e.done ++ e.chunks := by
  fun_induction Egress.advance fuel e n with
  | case4 _ e _ h rest hc _ _ ih => simpa [hc] using ih
  | _ => rfl

theorem advance_msgCount_le (fuel : Nat) (e : Egress) (n : Nat) :
    (Egress.advance fuel e n).msgCount ≤ e.msgCount := by
  fun_induction Egress.advance fuel e n with
  | case4 _ e _ h _ _ _ _ ih => exact Nat.le_trans ih (Nat.sub_le _ _)
  | _ => exact Nat.le_refl _

theorem push_msgCount_le (e : Egress) (d : List UInt8) (n : Nat) : (e.push d n).msgCount ≤ e.msgCount + n := by
  fun_cases Egress.push e d n with
  | case1 => exact Nat.le_add_right _ _
  | case2 => exact Nat.le_refl _

theorem pushPriority_msgCount (e : Egress) (d : List UInt8) : (e.pushPriority d).msgCount = e.msgCount := by
  fun_cases Egress.pushPriority e d <;> rfl

/-- what has reached the transport is whole chunks plus a prefix of the head chunk; an empty buffer has offset 0 -/
def Egress.Aligned (e : Egress) : Prop :=
  e.written = ((e.done.map (·.data)).flatten) ++ ((e.chunks.head?.map (·.data.take e.offset)).getD [])
  ∧ (e.chunks = [] → e.offset = 0)

theorem advance_aligned (fuel : Nat) (e : Egress) (n : Nat) (hal : e.Aligned) : (Egress.advance fuel e n).Aligned := by
  fun_induction Egress.advance fuel e n with
  | case4 _ e _ h rest hc _ _ ih =>
    apply ih
    refine ⟨?_, fun _ => rfl⟩
    cases rest <;> simp [hal.1, hc]
  | case5 _ e n h rest hc _ _ =>
    refine ⟨?_, by simp [hc]⟩
    simp [hal.1, hc, List.take_add]
  | _ => exact hal

theorem push_aligned (e : Egress) (d : List UInt8) (n : Nat) (h : e.Aligned) : (e.push d n).Aligned := by
  fun_cases Egress.push e d n with
  | case1 => exact h
  | case2 =>
    refine ⟨?_, by simp⟩
    cases hc : e.chunks <;> simp [h.1, hc, h.2]

theorem pushPriority_aligned (e : Egress) (d : List UInt8) (h : e.Aligned) : (e.pushPriority d).Aligned := by
  -- the branches of `pushPriority`: empty frame; head chunk partly written but no chunk; after that chunk; in front
  fun_cases Egress.pushPriority e d with
  | case1 => exact h
  | case2 _ ho hc => exact absurd (h.2 hc) (by omega)
  | case3 _ ho c rest hc => exact ⟨by simp [h.1, hc], by simp⟩
  | case4 _ ho =>
    have h0 : e.offset = 0 := by omega
    refine ⟨?_, by simp⟩
    cases hc : e.chunks <;> simp [h.1, hc, h0]

theorem push_dataBytes (e : Egress) (d : List UInt8) (n : Nat) : (e.push d n).dataBytes = e.dataBytes ++ d := by
  fun_cases Egress.push e d n with
  | case1 hd => simp [List.isEmpty_iff.mp hd]
  | case2 => simp [Egress.dataBytes, ← List.append_assoc]

theorem pushPriority_dataBytes (e : Egress) (d : List UInt8) : (e.pushPriority d).dataBytes = e.dataBytes := by
  fun_cases Egress.pushPriority e d with
  | case1 => rfl
  | case2 _ _ hc => simp [Egress.dataBytes, hc]
  | case3 _ _ c rest hc => simp [Egress.dataBytes, hc, List.filter_cons]
  | case4 => simp [Egress.dataBytes]

theorem advance_dataBytes (fuel : Nat) (e : Egress) (n : Nat) : (Egress.advance fuel e n).dataBytes = e.dataBytes := by
  simp only [Egress.dataBytes, advance_done_chunks]

def Egress.NoPrio (e : Egress) : Prop := ∀ c ∈ e.done ++ e.chunks, c.prio = false

theorem push_noPrio (e : Egress) (d : List UInt8) (n : Nat) (h : e.NoPrio) : (e.push d n).NoPrio := by
  fun_cases Egress.push e d n with
  | case1 => exact h
  | case2 =>
    intro c hc
    rcases List.mem_append.mp (List.append_assoc .. ▸ hc) with hc | hc
    · exact h c hc
    · rw [List.mem_singleton.mp hc]

theorem advance_noPrio (fuel : Nat) (e : Egress) (n : Nat) (h : e.NoPrio) : (Egress.advance fuel e n).NoPrio := by
  unfold Egress.NoPrio
  rw [advance_done_chunks]
  exact h

theorem written_pending_dataBytes (e : Egress) (ha : e.Aligned) (hn : e.NoPrio) :
    e.written ++ e.pendingBytes = e.dataBytes := by
  have hd : e.dataBytes = ((e.done ++ e.chunks).map (·.data)).flatten := by
    rw [Egress.dataBytes, List.filter_eq_self.mpr fun c hc => by simp [hn c hc]]
  rw [hd, ha.1]
  cases hc : e.chunks with
  | nil => simp [Egress.pendingBytes, hc]
  | cons h rest => simp [Egress.pendingBytes, hc, ← List.append_assoc (h.data.take _)]

theorem frameBatch_append (a b : List Message) : frameBatch (a ++ b) = frameBatch a ++ frameBatch b := by
  simp [frameBatch, frameContiguous]

theorem frameBatch_nil : frameBatch [] = [] := rfl

/-- The transitions of the send path, the two batch-assembly branches seen as one: a loop pass does nothing, or - the
gate being open - moves a batch from the front of carry-over ++ pipe to the back of the egress buffer. -/
inductive SendPath.Step (s : SendPath) : SendEv → SendPath → Prop
  | accept (m : Message) : Step s (.accept m) { s with pipe := s.pipe ++ [m], accepted := s.accepted ++ [m] }
  | idle (ev : SendEv) : Step s ev s
  | pass (ev : SendEv) (a : Assembled) :
      IsPass s.cfg s.egress.msgCount s.carry s.pipe a → s.egress.msgCount < max s.cfg.sndhwm 1 →
      Step s ev { s with carry := a.carry, pipe := a.pipe, egress := s.egress.push (frameBatch a.batch) a.batch.length }
  | written (n : Nat) : Step s (.written n) { s with egress := Egress.advance (s.egress.chunks.length + 1) s.egress n }
  | control (f : List UInt8) : Step s (.control f) { s with egress := s.egress.pushPriority f }

theorem SendPath.step_sound (s : SendPath) (ev : SendEv) : s.Step ev (s.step ev) := by
  -- the branches of `SendPath.step` in source order; `hg` is the guard of an assembly branch, its second half the gate
  fun_cases SendPath.step s ev with
  | case1 m => exact .accept m
  | case2 hg a => exact .pass _ _ (assembleFromCarry_isPass ..) (of_decide_eq_true (Bool.and_eq_true_iff.mp hg).2)
  | case5 hg first rest hp a =>
    -- that the pipe branch is only taken with an empty carry-over rests on `Gen.pipeBranchNeedsEmptyCarry = 1`
    have hc : s.carry = [] := by simpa [Gen.pipeBranchNeedsEmptyCarry] using (Bool.and_eq_true_iff.mp hg).1
    rw [hc, List.nil_append]
    exact .pass _ _ (hc ▸ hp ▸ assembleFromPipe_isPass ..) (of_decide_eq_true (Bool.and_eq_true_iff.mp hg).2)
  | case7 n => exact .written n
  | case8 f => exact .control f
  | _ => exact .idle _

theorem SendPath.Step.cfg {s s' : SendPath} {ev : SendEv} (st : s.Step ev s') : s'.cfg = s.cfg := by
  cases st <;> rfl

theorem SendPath.step_cfg (s : SendPath) (ev : SendEv) : (s.step ev).cfg = s.cfg :=
  (s.step_sound ev).cfg

/-- what every `Step` keeps, a run keeps (`hstep` may use that its event is one of the run's) -/
theorem SendPath.run_induction {P : SendPath → Prop} (s : SendPath) (evs : List SendEv)
    (hstep : ∀ t ev t', ev ∈ evs → t.Step ev t' → P t → P t') (h : P s) : P (s.run evs) :=
  List.foldlRecOn evs SendPath.step h fun t ht ev hm => hstep t ev _ hm (t.step_sound ev) ht

theorem SendPath.run_cfg (s : SendPath) (evs : List SendEv) : (s.run evs).cfg = s.cfg :=
  s.run_induction (P := fun t => t.cfg = s.cfg) evs (fun _ _ _ _ st ht => st.cfg.trans ht) rfl

/-- a step puts the messages it accepts, if any, on the end of the line; nothing else changes what is on it -/
theorem SendPath.Step.wire {s s' : SendPath} {ev : SendEv} (st : s.Step ev s') :
    ∃ ms, s'.accepted = s.accepted ++ ms ∧ s'.wire = s.wire ++ frameBatch ms := by
  cases st with
  | accept m => exact ⟨[m], rfl, by simp [SendPath.wire, frameBatch_append]⟩
  | idle => exact ⟨[], (List.append_nil _).symm, (List.append_nil _).symm⟩
  | pass _ a ha =>
    -- the batch moves from the front of carry-over ++ pipe to the back of the egress buffer
    refine ⟨[], (List.append_nil _).symm, ?_⟩
    simp only [SendPath.wire, push_dataBytes, List.append_assoc, frameBatch_nil, List.append_nil]
    rw [← frameBatch_append, ← frameBatch_append, ← List.append_assoc, ha.conserves, frameBatch_append]
  | written n => exact ⟨[], (List.append_nil _).symm, by simp [SendPath.wire, advance_dataBytes, frameBatch_nil]⟩
  | control f => exact ⟨[], (List.append_nil _).symm, by simp [SendPath.wire, pushPriority_dataBytes, frameBatch_nil]⟩

/-- the invariant that says exactly-once, in order -/
theorem SendPath.Step.fifo {s s' : SendPath} {ev : SendEv} (st : s.Step ev s') (h : s.wire = frameBatch s.accepted) :
    s'.wire = frameBatch s'.accepted := by
  obtain ⟨ms, ha, hw⟩ := st.wire
  rw [hw, ha, h, frameBatch_append]

theorem SendPath.run_fifo (s : SendPath) (evs : List SendEv) (h : s.wire = frameBatch s.accepted) :
    (s.run evs).wire = frameBatch (s.run evs).accepted :=
  s.run_induction (P := fun t => t.wire = frameBatch t.accepted) evs (fun _ _ _ _ st => st.fifo) h

/-- `pushPriority` need keep `P` only for the control frames that occur (none, in `run_noPrio`) -/
theorem SendPath.Step.egress {P : Egress → Prop} (hpush : ∀ e d n, P e → P (e.push d n))
    (hadv : ∀ fuel e n, P e → P (Egress.advance fuel e n)) {s s' : SendPath} {ev : SendEv} (st : s.Step ev s')
    (hprio : ∀ f, ev = .control f → P (s.egress.pushPriority f)) (h : P s.egress) : P s'.egress := by
  cases st with
  | accept m => exact h
  | idle => exact h
  | pass => exact hpush _ _ _ h
  | written n => exact hadv _ _ _ h
  | control f => exact hprio f rfl

theorem SendPath.run_aligned (s : SendPath) (evs : List SendEv) (h : s.egress.Aligned) : (s.run evs).egress.Aligned :=
  s.run_induction (P := fun t => t.egress.Aligned) evs (fun _ _ _ _ st ht =>
    st.egress push_aligned advance_aligned (fun f _ => pushPriority_aligned _ f ht) ht) h

theorem SendPath.run_noPrio (s : SendPath) (evs : List SendEv) (hctl : ∀ e ∈ evs, ∀ f, e ≠ .control f)
    (h : s.egress.NoPrio) : (s.run evs).egress.NoPrio :=
  s.run_induction (P := fun t => t.egress.NoPrio) evs (fun _ ev _ hm st ht =>
    st.egress push_noPrio advance_noPrio (fun f hf => absurd hf (hctl ev hm f)) ht) h

theorem SendPath.run_stream (cfg : BatchCfg) (evs : List SendEv) (hctl : ∀ e ∈ evs, ∀ f, e ≠ .control f) :
    let s := SendPath.run { cfg := cfg } evs
    s.egress.written ++ s.egress.pendingBytes ++ frameBatch s.carry ++ frameBatch s.pipe = frameBatch s.accepted := by
  intro s
  rw [written_pending_dataBytes _ (SendPath.run_aligned _ evs (by simp [Egress.Aligned]))
    (SendPath.run_noPrio _ evs hctl (by simp [Egress.NoPrio]))]
  exact SendPath.run_fifo _ evs rfl

theorem maxCount_budget (cfg : BatchCfg) (pending : Nat) (h : pending < max cfg.sndhwm 1) :
    pending + maxCount cfg pending ≤ max cfg.sndhwm 1 := by
  unfold maxCount
  omega

/-- the session buffers at most SNDHWM messages in its egress buffer and one batch in carry-over -/
def SendPath.Bounded (s : SendPath) : Prop :=
  s.egress.msgCount ≤ max s.cfg.sndhwm 1 ∧ s.carry.length ≤ s.cfg.count

theorem SendPath.Step.bounded {s s' : SendPath} {ev : SendEv} (st : s.Step ev s') (hc : 1 ≤ s.cfg.count)
    (h : s.Bounded) : s'.Bounded := by
  obtain ⟨hm, hl⟩ := h
  unfold SendPath.Bounded
  rw [st.cfg]
  cases st with
  | accept m => exact ⟨hm, hl⟩
  | idle => exact ⟨hm, hl⟩
  | pass _ a ha hg =>
    -- the batch is within the budget that `maxCount` leaves below SNDHWM
    have h2 := ha.count hc
    have h3 := maxCount_budget s.cfg s.egress.msgCount hg
    exact ⟨Nat.le_trans (push_msgCount_le ..) (by omega), Nat.le_trans ha.carry_le (by omega)⟩
  | written n => exact ⟨Nat.le_trans (advance_msgCount_le ..) hm, hl⟩
  | control f => exact ⟨Nat.le_trans (Nat.le_of_eq (pushPriority_msgCount ..)) hm, hl⟩

theorem SendPath.run_bounded (s : SendPath) (evs : List SendEv) (hc : 1 ≤ s.cfg.count) (h : s.Bounded) :
    (s.run evs).Bounded :=
  (s.run_induction (P := fun t => t.cfg = s.cfg ∧ t.Bounded) evs
    (fun _ _ _ _ st ht => ⟨st.cfg.trans ht.1, st.bounded (ht.1 ▸ hc) ht.2⟩) ⟨rfl, h⟩).2

theorem SendPath.Step.pipe_le {s s' : SendPath} {ev : SendEv} (st : s.Step ev s') {b : Nat} (h : s.pipe.length ≤ b)
    (hacc : ∀ m, ev = .accept m → s.pipe.length < b) : s'.pipe.length ≤ b := by
  cases st with
  | accept m =>
    simp only [List.length_append, List.length_singleton]
    exact hacc m rfl
  | pass _ a ha => exact Nat.le_trans ha.pipe_le h
  | _ => exact h

theorem RecvPath.step_fifo (r : RecvPath) (ev : RecvEv) (h : r.delivered ++ r.queue ++ r.buffer = r.decoded) :
    (r.step ev).delivered ++ (r.step ev).queue ++ (r.step ev).buffer = (r.step ev).decoded := by
  -- the branches of `RecvPath.step` that change the state: a read into the empty buffer (`case1`), a batch drain
  -- (`case3`), a completed send with room in the queue (`case5`), a receive from the non-empty queue (`case9`)
  fun_cases RecvPath.step r ev with
  | case1 msgs hb => simp [← h, List.isEmpty_iff.mp hb]
  | case3 room => simpa using h
  | case5 m rest hb _ => simp [← h, hb]
  | case9 m rest hq => simp [← h, hq]
  | _ => exact h

theorem RecvPath.step_rcvhwm (r : RecvPath) (ev : RecvEv) : (r.step ev).rcvhwm = r.rcvhwm := by
  fun_cases RecvPath.step r ev <;> rfl

theorem RecvPath.step_queue (r : RecvPath) (ev : RecvEv) (h : r.queue.length ≤ max r.rcvhwm 1) :
    (r.step ev).queue.length ≤ max (r.step ev).rcvhwm 1 := by
  rw [r.step_rcvhwm ev]
  fun_cases RecvPath.step r ev with
  | case3 room =>
    simp only [List.length_append, List.length_take]
    omega
  | case5 m rest _ hlt =>
    simp only [List.length_append, List.length_singleton]
    exact hlt
  | case9 m rest hq =>
    rw [hq] at h
    exact Nat.le_of_succ_le h
  | _ => exact h

/-- the ingress buffer is only refilled when empty, and otherwise only shrinks -/
theorem RecvPath.step_buffer (r : RecvPath) (ev : RecvEv) (k : Nat)
    (hread : ∀ msgs, ev = .read msgs → msgs.length ≤ k) (h : r.buffer.length ≤ k) :
    (r.step ev).buffer.length ≤ k := by
  fun_cases RecvPath.step r ev with
  | case1 msgs _ => exact hread msgs rfl
  | case3 room =>
    simp only [List.length_drop]
    omega
  | case5 m rest hb _ =>
    rw [hb] at h
    exact Nat.le_of_succ_le h
  | _ => exact h

theorem RecvPath.run_fifo (r : RecvPath) (evs : List RecvEv) (h : r.delivered ++ r.queue ++ r.buffer = r.decoded) :
    (r.run evs).delivered ++ (r.run evs).queue ++ (r.run evs).buffer = (r.run evs).decoded :=
  List.foldlRecOn (motive := fun r : RecvPath => r.delivered ++ r.queue ++ r.buffer = r.decoded) evs RecvPath.step h
    fun r hr ev _ => r.step_fifo ev hr

theorem RecvPath.run_queue (r : RecvPath) (evs : List RecvEv) (h : r.queue.length ≤ max r.rcvhwm 1) :
    (r.run evs).queue.length ≤ max r.rcvhwm 1 := by
  obtain ⟨h1, h2⟩ := List.foldlRecOn (motive := fun t : RecvPath => t.rcvhwm = r.rcvhwm ∧ t.queue.length ≤ max t.rcvhwm 1)
    evs RecvPath.step ⟨rfl, h⟩ fun t ht ev _ => ⟨(t.step_rcvhwm ev).trans ht.1, t.step_queue ev ht.2⟩
  exact h1 ▸ h2

theorem RecvPath.run_buffer (r : RecvPath) (evs : List RecvEv) (k : Nat)
    (hread : ∀ msgs, RecvEv.read msgs ∈ evs → msgs.length ≤ k) (h : r.buffer.length ≤ k) :
    (r.run evs).buffer.length ≤ k :=
  List.foldlRecOn (motive := fun r : RecvPath => r.buffer.length ≤ k) evs RecvPath.step h
    fun r hr ev hm => r.step_buffer ev k (fun msgs he => hread msgs (he ▸ hm)) hr

theorem regroup_msg : ∀ (m : Message) (acc rest : List Frame), m ≠ [] →
    (∀ f ∈ m.dropLast, f.more = true) → (∀ f, m.getLast? = some f → f.more = false) →
    regroup acc (m ++ rest) = ((acc ++ m) :: (regroup [] rest).1, (regroup [] rest).2) := by
  intro m
  induction m with
  | nil => exact fun _ _ h => absurd rfl h
  | cons f tl ih =>
    intro acc rest _ hd hl
    cases tl with
    | nil => simp [regroup, hl f rfl]
    | cons g tl =>
      rw [List.cons_append, regroup, if_pos (hd f (by simp)),
        ih (acc ++ [f]) rest (by simp) (fun x hx => hd x (by simp [hx])) (fun x hx => hl x (by simpa using hx))]
      simp

end Rzmq
