import RzmqModel.Proofs.EngineRun
/-! The engine model and security (C06): no handshake completes unless the negotiated, locally enabled mechanism
accepted the peer, and no downgrade to ZMTP/2.0 happens when security is configured.

`Tr` is what one `step` does to the fields the argument looks at (`step_tr`); `Inv` is the invariant, kept by every
`Tr` (`Inv.tr`) and hence by every sequence of reads (`Inv.reachable`, through `feedAll_inv` of `Proofs.EngineRun`).
During the security phase `MechTok` ties the mechanism's state to the tokens accepted so far; it holds of what `negotiate`
selects, is kept by `produceToken` and `processToken`, and gives `Final` once the mechanism reports `ready`. -/
namespace Rzmq

variable {spec : AbsSpec} {cfg : Cfg}

/-- Every `step` is one of these transitions (only the fields relevant for security are tracked). -/
inductive Tr (spec : AbsSpec) (cfg : Cfg) (s s' : Eng) (app : List AppAct) : Prop
  | closed (e : ErrClass) (hp : s'.phase = .closed) (hn : s'.gNegotiated = s.gNegotiated)
      (ht : s'.gTokens = s.gTokens)
      (hv : s'.version = s.version ∨ (s'.version = some .v2 ∧ v2Refused cfg = false))
      (ha : app = [.peerError e])
  | greet (h0 : s.phase = .greeting) (hp : s'.phase = .greeting) (hn : s'.gNegotiated = s.gNegotiated)
      (ht : s'.gTokens = s.gTokens) (hv : s'.version = s.version ∨ s'.version = some .v3) (ha : app = [])
  | toV2 (h0 : s.phase = .greeting) (hr : v2Refused cfg = false) (hp : s'.phase = .v2Identity)
      (hv : s'.version = some .v2) (hn : s'.gNegotiated = s.gNegotiated) (ht : s'.gTokens = s.gTokens)
      (ha : app = [])
  | negSec (g : Greeting) (m : Mech) (h0 : s.phase = .greeting) (hneg : negotiate spec cfg g = .ok m)
      (hp : s'.phase = .security) (hm : s'.mech = m)
      (hn : s'.gNegotiated = some (mechKindOf m)) (ht : s'.gTokens = s.gTokens)
      (hv : s'.version = s.version) (ha : app = [])
  | negReady (g : Greeting) (m : Mech) (h0 : s.phase = .greeting) (hneg : negotiate spec cfg g = .ok m)
      (hst : mechStatus spec cfg m = .ready) (hp : s'.phase = .ready)
      (hn : s'.gNegotiated = some (mechKindOf m)) (ht : s'.gTokens = s.gTokens)
      (hv : s'.version = s.version) (ha : app = [])
  | produce (t : Bytes) (m' : Mech) (h0 : s.phase = .security)
      (hpr : produceToken spec cfg s.mech = (some t, m')) (hp : s'.phase = .security) (hm : s'.mech = m')
      (hn : s'.gNegotiated = s.gNegotiated) (ht : s'.gTokens = s.gTokens)
      (hv : s'.version = s.version) (ha : app = [])
  | secReady (h0 : s.phase = .security) (hst : mechStatus spec cfg s.mech = .ready) (hp : s'.phase = .ready)
      (hn : s'.gNegotiated = s.gNegotiated) (ht : s'.gTokens = s.gTokens)
      (hv : s'.version = s.version) (ha : app = [])
  | consume (tok : Bytes) (m' : Mech) (h0 : s.phase = .security)
      (hpt : processToken spec cfg s.mech tok = .ok m') (hp : s'.phase = .security) (hm : s'.mech = m')
      (hn : s'.gNegotiated = s.gNegotiated) (ht : s'.gTokens = s.gTokens ++ [tok])
      (hv : s'.version = s.version) (ha : app = [])
  | readyDone (i st : Option Bytes) (h0 : s.phase = .ready) (hp : s'.phase = .data)
      (hn : s'.gNegotiated = s.gNegotiated) (ht : s'.gTokens = s.gTokens)
      (hv : s'.version = s.version) (ha : app = [.handshakeComplete i st])
  | v2Stay (h0 : s.phase = .v2Identity) (hp : s'.phase = .v2Identity)
      (hn : s'.gNegotiated = s.gNegotiated) (ht : s'.gTokens = s.gTokens)
      (hv : s'.version = s.version) (ha : app = [])
  | v2Done (i st : Option Bytes) (h0 : s.phase = .v2Identity) (hp : s'.phase = .data)
      (hn : s'.gNegotiated = s.gNegotiated) (ht : s'.gTokens = s.gTokens)
      (hv : s'.version = s.version) (ha : app = [.handshakeComplete i st])
  | dataQuiet (h0 : s.phase = .data) (hp : s'.phase = .data)
      (hn : s'.gNegotiated = s.gNegotiated) (ht : s'.gTokens = s.gTokens)
      (hv : s'.version = s.version) (ha : app = [])
  | dataDeliver (m : Message) (h0 : s.phase = .data) (hp : s'.phase = .data)
      (hn : s'.gNegotiated = s.gNegotiated) (ht : s'.gTokens = s.gTokens)
      (hv : s'.version = s.version) (ha : app = [.deliver m])

theorem step_tr {t : Nat} {s s' : Eng} {o : Out}
    (h : step spec cfg t s = some (s', o)) : Tr spec cfg s s' o.app := by
  revert s' o
  fun_cases step spec cfg t s <;> rintro s' o ⟨⟩
  -- the failing transitions ..
  all_goals try exact .closed _ rfl rfl rfl (.inl rfl) rfl
  -- .. and the others, in the order in which `step` lists them (the third is the one failure that has set the version)
  · exact .greet ‹_› ‹_› rfl rfl (.inl rfl) rfl
  · exact .greet ‹_› ‹_› rfl rfl (.inr rfl) rfl
  · exact .closed _ rfl rfl rfl (.inr ⟨rfl, by simpa using ‹¬ v2Refused cfg = true›⟩) rfl
  · exact .toV2 ‹_› (by simpa using ‹¬ v2Refused cfg = true›) rfl rfl rfl rfl rfl
  · exact .negReady _ _ ‹_› ‹_› (eq_of_beq ‹(mechStatus spec cfg _ == .ready) = true›) rfl rfl rfl rfl rfl
  · exact .negSec _ _ ‹_› ‹_› rfl rfl rfl rfl rfl rfl
  · exact .produce _ _ ‹_› ‹_› ‹_› rfl rfl rfl rfl rfl
  · exact .secReady ‹_› (eq_of_beq ‹(mechStatus spec cfg _ == .ready) = true›) rfl rfl rfl rfl rfl
  · exact .consume _ _ ‹_› ‹_› ‹_› rfl rfl rfl rfl rfl
  · exact .readyDone _ _ ‹_› rfl rfl rfl rfl rfl
  · exact .v2Stay ‹_› ‹_› rfl rfl rfl rfl
  · exact .v2Done _ _ ‹_› rfl rfl rfl rfl rfl
  -- the data phase: four kinds of command frame, the modelled panic and a MORE frame deliver nothing; the last frame does
  iterate 6 exact .dataQuiet ‹_› ‹_› rfl rfl rfl rfl
  · exact .dataDeliver _ ‹_› ‹_› rfl rfl rfl rfl

/-- a well-formed PLAIN HELLO carrying exactly the configured credentials (same as `C06.IsValidHello`) -/
def ValidHello (cfg : Cfg) (tok : Bytes) : Prop :=
  ∃ body u p, tok = lenPrefixed Gen.plainHello ++ body ∧ parseHello body = some (u, p)
    ∧ cfg.plainUser = some u ∧ cfg.plainPass = some p

def IsWelcome (tok : Bytes) : Prop := ∃ body, tok = lenPrefixed Gen.plainWelcome ++ body

/-- what a completed handshake of mechanism `k` guarantees about the accepted tokens -/
def Final (spec : AbsSpec) (cfg : Cfg) (k : MechKind) (toks : List Bytes) : Prop :=
  match k with
  | .null => True
  | .plain => if cfg.isServer = true then ∃ tok ∈ toks, ValidHello cfg tok else ∃ tok ∈ toks, IsWelcome tok
  | .curve => ∃ n, spec.status .curve cfg.isServer toks n = .ready
  | .noise => ∃ n, spec.status .noise cfg.isServer toks n = .ready

/-- the relation between the mechanism state and the accepted tokens during the security phase -/
def MechTok (cfg : Cfg) (m : Mech) (toks : List Bytes) : Prop :=
  match m with
  | .null => True
  | .plain st =>
    if cfg.isServer = true then
      st = .serverExpectHello ∨ ((st = .serverSendWelcome ∨ st = .ready) ∧ ∃ tok ∈ toks, ValidHello cfg tok)
    else
      st = .clientSendHello ∨ st = .clientExpectWelcome ∨ (st = .ready ∧ ∃ tok ∈ toks, IsWelcome tok)
  | .abs k h _ => h = toks ∧ (k = .curve ∨ k = .noise)

theorem lenPrefixed_of_take {cl : UInt8} {rest name : Bytes} (hl : ¬ rest.length < cl.toNat)
    (hn : rest.take cl.toNat = name) : cl :: rest = lenPrefixed name ++ rest.drop cl.toNat := by
  have hlen : name.length = cl.toNat := by rw [← hn, List.length_take]; omega
  unfold lenPrefixed
  rw [hlen, UInt8.ofNat_toNat, ← hn]
  simp [List.take_append_drop]

theorem negotiate_ok {g : Greeting} {m : Mech} (h : negotiate spec cfg g = .ok m) :
    mechEnabled cfg (mechKindOf m) = true ∧ mechNameBytes (mechKindOf m) = g.mechanism ∧ MechTok cfg m [] := by
  revert h
  fun_cases negotiate spec cfg g <;> intro h <;> cases h
  -- the mechanism found is the one with the peer's name, and it passed the `mechEnabled` test
  all_goals
    have hname := List.find?_some ‹_›
    refine ⟨by simpa using ‹¬ (!mechEnabled cfg _) = true›, eq_of_beq hname, ?_⟩
  · trivial
  · cases hsrv : cfg.isServer <;> simp [MechTok, hsrv]
  · rename_i k hnull hplain _ _ _
    exact ⟨rfl, by cases k <;> simp_all⟩

theorem mechTok_final {m : Mech} {toks : List Bytes}
    (hm : MechTok cfg m toks) (hst : mechStatus spec cfg m = .ready) :
    Final spec cfg (mechKindOf m) toks := by
  cases m with
  | null => trivial
  | plain st =>
    -- only `.plain .ready` reports ready; it has recorded the HELLO (server) or the WELCOME (client)
    cases st <;> simp [mechStatus] at hst
    cases hsrv : cfg.isServer <;> simpa [MechTok, Final, mechKindOf, hsrv] using hm
  | abs k h n =>
    obtain ⟨rfl, rfl | rfl⟩ := hm <;> exact ⟨n, hst⟩

theorem produce_mechTok {m m' : Mech} {toks : List Bytes} {t : Bytes}
    (hm : MechTok cfg m toks) (hp : produceToken spec cfg m = (some t, m')) :
    MechTok cfg m' toks ∧ mechKindOf m' = mechKindOf m := by
  revert hp
  fun_cases produceToken spec cfg m <;> intro hp <;> cases hp <;> refine ⟨?_, rfl⟩
  -- a PLAIN client has sent its HELLO; a PLAIN server its WELCOME, and the HELLO it accepted stays on record
  · cases hsrv : cfg.isServer <;> simp_all [MechTok]
  · cases hsrv : cfg.isServer <;> simp_all [MechTok]
  · exact hm

theorem process_mechTok {m m' : Mech} {toks : List Bytes} {tok : Bytes}
    (hm : MechTok cfg m toks) (hp : processToken spec cfg m tok = .ok m') :
    MechTok cfg m' (toks ++ [tok]) ∧ mechKindOf m' = mechKindOf m := by
  revert hp
  fun_cases processToken spec cfg m tok <;> intro hp <;> cases hp <;> refine ⟨?_, rfl⟩
  · trivial
  -- the server accepted a HELLO: it is well formed and carries the configured credentials
  · rename_i cl rest hlen _ _ hsrv hname u p hparse hcred
    simp only [Bool.and_eq_true, beq_iff_eq] at hname hcred
    simp only [MechTok, hsrv, if_true]
    exact .inr ⟨.inl trivial, _, List.mem_append_right _ (List.mem_singleton_self _), _, u, p,
      lenPrefixed_of_take hlen hname, hparse, hcred.1, hcred.2⟩
  -- the client accepted a WELCOME
  · rename_i cl rest hlen _ hsrv hname
    simp only [beq_iff_eq] at hname
    simp only [MechTok, hsrv]
    exact .inr (.inr ⟨trivial, _, List.mem_append_right _ (List.mem_singleton_self _), _, lenPrefixed_of_take hlen hname⟩)
  · exact ⟨by rw [hm.1], hm.2⟩

/-- a `HandshakeComplete` has been emitted -/
def HC (e : List AppAct) : Prop := ∃ a ∈ e, isHandshakeComplete a = true

theorem HC_snoc {e : List AppAct} {a : AppAct} : HC (e ++ [a]) ↔ HC e ∨ isHandshakeComplete a = true := by
  simp [HC, or_and_right, exists_or]

theorem split_snoc {α : Type} {e pre post : List α} {x d : α} (h : e ++ [x] = pre ++ d :: post) :
    (post = [] ∧ e = pre ∧ x = d) ∨ ∃ post', e = pre ++ d :: post' := by
  rcases List.eq_nil_or_concat post with rfl | ⟨post', y, rfl⟩
  · left
    have := List.append_inj' h rfl
    simp_all
  · right
    refine ⟨post', ?_⟩
    have h' : e ++ [x] = (pre ++ d :: post') ++ [y] := by simpa using h
    exact (List.append_inj' h' rfl).1

theorem deliver_snoc {e : List AppAct} {x : AppAct}
    (hd : ∀ pre m post, e = pre ++ AppAct.deliver m :: post → HC pre)
    (hx : isDeliver x = true → HC e) :
    ∀ pre m post, e ++ [x] = pre ++ AppAct.deliver m :: post → HC pre := by
  intro pre m post h
  rcases split_snoc h with ⟨_, rfl, rfl⟩ | ⟨post', rfl⟩
  · exact hx rfl
  · exact hd _ _ _ rfl

def Done (spec : AbsSpec) (cfg : Cfg) (s : Eng) : Prop :=
  ∃ k, s.gNegotiated = some k ∧ mechEnabled cfg k = true ∧ Final spec cfg k s.gTokens

theorem Done.congr {s s' : Eng} (hn : s'.gNegotiated = s.gNegotiated)
    (ht : s'.gTokens = s.gTokens) (h : Done spec cfg s) : Done spec cfg s' := by
  unfold Done at *; rw [hn, ht]; exact h

/-- The security invariant of an engine state `s` and the application actions `e` emitted so far.  Most fields speak of
one phase; `Inv.At` below says the same phase by phase and is the form to read. -/
structure Inv (spec : AbsSpec) (cfg : Cfg) (s : Eng) (e : List AppAct) : Prop where
  data_hc : s.phase = .data → HC e
  nohc : HC e → s.phase = .data ∨ s.phase = .closed
  deliver : ∀ pre m post, e = pre ++ AppAct.deliver m :: post → HC pre
  v2ref : s.version = some .v2 → v2Refused cfg = false
  v2id : s.phase = .v2Identity → s.version = some .v2
  greet : s.phase = .greeting → s.gTokens = []
  sec : s.phase = .security → s.gNegotiated = some (mechKindOf s.mech)
          ∧ mechEnabled cfg (mechKindOf s.mech) = true ∧ MechTok cfg s.mech s.gTokens
  ready : s.phase = .ready → Done spec cfg s
  hc : HC e → s.version = some .v2 ∨ Done spec cfg s

theorem Inv.acc {s : Eng} {e : List AppAct} (d : Bytes)
    (h : Inv spec cfg s e) : Inv spec cfg (addAcc s d) e :=
  ⟨h.data_hc, h.nohc, h.deliver, h.v2ref, h.v2id, h.greet, h.sec, h.ready, h.hc⟩

-- a field of `Inv` that speaks of another phase than the one `h` names holds vacuously
local macro "ph " h:ident : tactic => `(tactic| (intro hph; rw [$h:ident] at hph; cases hph))

/-- `Inv` read phase by phase: until the data phase no `HandshakeComplete` has been emitted and the phase's own fact
holds; from then on one has been, on a ZMTP/2.0 session or by a completed mechanism. -/
def Inv.At (spec : AbsSpec) (cfg : Cfg) (s : Eng) (e : List AppAct) : Phase → Prop
  | .greeting => ¬ HC e ∧ s.gTokens = []
  | .security => ¬ HC e ∧ s.gNegotiated = some (mechKindOf s.mech) ∧ mechEnabled cfg (mechKindOf s.mech) = true
      ∧ MechTok cfg s.mech s.gTokens
  | .ready => ¬ HC e ∧ Done spec cfg s
  | .v2Identity => ¬ HC e ∧ s.version = some .v2
  | .data => HC e ∧ (s.version = some .v2 ∨ Done spec cfg s)
  | .closed => HC e → s.version = some .v2 ∨ Done spec cfg s

/-- in phase `p` the invariant is `Inv.At .. p` and the two phase-independent fields; the other fields are vacuous -/
theorem Inv.of_at {s : Eng} {e : List AppAct} {p : Phase} (hp : s.phase = p)
    (hat : Inv.At spec cfg s e p) (hd : ∀ pre m post, e = pre ++ AppAct.deliver m :: post → HC pre)
    (hv : s.version = some .v2 → v2Refused cfg = false) : Inv spec cfg s e := by
  cases p with
  | greeting => exact ⟨by ph hp, fun h => absurd h hat.1, hd, hv, by ph hp, fun _ => hat.2, by ph hp, by ph hp,
      fun h => absurd h hat.1⟩
  | security => exact ⟨by ph hp, fun h => absurd h hat.1, hd, hv, by ph hp, by ph hp, fun _ => hat.2, by ph hp,
      fun h => absurd h hat.1⟩
  | ready => exact ⟨by ph hp, fun h => absurd h hat.1, hd, hv, by ph hp, by ph hp, by ph hp, fun _ => hat.2,
      fun h => absurd h hat.1⟩
  | v2Identity => exact ⟨by ph hp, fun h => absurd h hat.1, hd, hv, fun _ => hat.2, by ph hp, by ph hp, by ph hp,
      fun h => absurd h hat.1⟩
  | data => exact ⟨fun _ => hat.1, fun _ => .inl hp, hd, hv, by ph hp, by ph hp, by ph hp, by ph hp, fun _ => hat.2⟩
  | closed => exact ⟨by ph hp, fun _ => .inr hp, hd, hv, by ph hp, by ph hp, by ph hp, by ph hp, hat⟩

theorem Inv.init (spec : AbsSpec) (cfg : Cfg) : Inv spec cfg Eng.init [] :=
  .of_at (p := .greeting) rfl ⟨by simp [HC], rfl⟩ (fun pre m post h => by simp at h) nofun

theorem Inv.tr {s s' : Eng} {e a : List AppAct}
    (hi : Inv spec cfg s e) (htr : Tr spec cfg s s' a) : Inv spec cfg s' (e ++ a) := by
  have nope : ∀ {p : Phase}, s.phase = p → p ≠ .data → p ≠ .closed → ¬ HC e := by
    intro p h0 h1 h2 h
    rcases hi.nohc h with h | h <;> rw [h0] at h
    · exact h1 h
    · exact h2 h
  have v2 : s'.version = s.version → s'.version = some .v2 → v2Refused cfg = false := fun hv h => hi.v2ref (hv ▸ h)
  have tx : s'.gNegotiated = s.gNegotiated → s'.gTokens = s.gTokens → s'.version = s.version →
      (s.version = some .v2 ∨ Done spec cfg s) → (s'.version = some .v2 ∨ Done spec cfg s') :=
    fun hn ht hv h => h.imp (hv ▸ ·) (Done.congr hn ht)
  cases htr with
  | closed e0 hp hn ht hv ha =>
    subst ha
    refine .of_at hp (fun h => ?_) (deliver_snoc hi.deliver nofun) (fun h => ?_)
    · have hd := hi.hc ((HC_snoc.1 h).resolve_right nofun)
      rcases hv with hv | ⟨hv, _⟩
      · exact tx hn ht hv hd
      · exact .inl hv
    · rcases hv with hv | ⟨_, hr⟩
      · exact v2 hv h
      · exact hr
  | greet h0 hp hn ht hv ha =>
    subst ha; rw [List.append_nil]
    refine .of_at hp ⟨nope h0 nofun nofun, ht.trans (hi.greet h0)⟩ hi.deliver (fun h => ?_)
    rcases hv with hv | hv
    · exact v2 hv h
    · rw [hv] at h; cases h
  | toV2 h0 hr hp hv hn ht ha =>
    subst ha; rw [List.append_nil]
    exact .of_at hp ⟨nope h0 nofun nofun, hv⟩ hi.deliver (fun _ => hr)
  | negSec g m h0 hneg hp hm hn ht hv ha =>
    subst ha; rw [List.append_nil]
    refine .of_at hp ⟨nope h0 nofun nofun, ?_⟩ hi.deliver (v2 hv)
    rw [hm, hn, ht, hi.greet h0]
    exact ⟨rfl, (negotiate_ok hneg).1, (negotiate_ok hneg).2.2⟩
  | negReady g m h0 hneg hst hp hn ht hv ha =>
    subst ha; rw [List.append_nil]
    refine .of_at hp ⟨nope h0 nofun nofun, mechKindOf m, hn, (negotiate_ok hneg).1, ?_⟩ hi.deliver (v2 hv)
    rw [ht, hi.greet h0]
    exact mechTok_final (negotiate_ok hneg).2.2 hst
  | produce t m' h0 hpr hp hm hn ht hv ha =>
    subst ha; rw [List.append_nil]
    obtain ⟨h1, h2, h3⟩ := hi.sec h0
    obtain ⟨h4, h5⟩ := produce_mechTok h3 hpr
    refine .of_at hp ⟨nope h0 nofun nofun, ?_⟩ hi.deliver (v2 hv)
    rw [hm, hn, ht, h5]
    exact ⟨h1, h2, h4⟩
  | secReady h0 hst hp hn ht hv ha =>
    subst ha; rw [List.append_nil]
    obtain ⟨h1, h2, h3⟩ := hi.sec h0
    exact .of_at hp ⟨nope h0 nofun nofun, _, hn.trans h1, h2, ht ▸ mechTok_final h3 hst⟩ hi.deliver (v2 hv)
  | consume tok m' h0 hpt hp hm hn ht hv ha =>
    subst ha; rw [List.append_nil]
    obtain ⟨h1, h2, h3⟩ := hi.sec h0
    obtain ⟨h4, h5⟩ := process_mechTok (tok := tok) h3 hpt
    refine .of_at hp ⟨nope h0 nofun nofun, ?_⟩ hi.deliver (v2 hv)
    rw [hm, hn, ht, h5]
    exact ⟨h1, h2, h4⟩
  | readyDone i st h0 hp hn ht hv ha =>
    subst ha
    exact .of_at hp ⟨HC_snoc.2 (.inr rfl), .inr (Done.congr hn ht (hi.ready h0))⟩ (deliver_snoc hi.deliver nofun) (v2 hv)
  | v2Stay h0 hp hn ht hv ha =>
    subst ha; rw [List.append_nil]
    exact .of_at hp ⟨nope h0 nofun nofun, hv.trans (hi.v2id h0)⟩ hi.deliver (v2 hv)
  | v2Done i st h0 hp hn ht hv ha =>
    subst ha
    exact .of_at hp ⟨HC_snoc.2 (.inr rfl), .inl (hv.trans (hi.v2id h0))⟩ (deliver_snoc hi.deliver nofun) (v2 hv)
  | dataQuiet h0 hp hn ht hv ha =>
    subst ha; rw [List.append_nil]
    exact .of_at hp ⟨hi.data_hc h0, tx hn ht hv (hi.hc (hi.data_hc h0))⟩ hi.deliver (v2 hv)
  | dataDeliver m h0 hp hn ht hv ha =>
    subst ha
    exact .of_at hp ⟨HC_snoc.2 (.inl (hi.data_hc h0)), tx hn ht hv (hi.hc (hi.data_hc h0))⟩
      (deliver_snoc hi.deliver (fun _ => hi.data_hc h0)) (v2 hv)

theorem Inv.reachable (spec : AbsSpec) (cfg : Cfg) (reads : List (Nat × Bytes)) :
    Inv spec cfg (feedAll spec cfg Eng.init reads).1 (feedAll spec cfg Eng.init reads).2.app := by
  have := feedAll_inv (P := Inv spec cfg) (spec := spec) (cfg := cfg)
    (fun s e d h => Inv.acc d h) (fun t s e s' o h hs => Inv.tr h (step_tr hs)) reads Eng.init [] (Inv.init spec cfg)
  simpa using this

theorem v2Refused_of_secure {cfg : Cfg} (hs : cfg.securityEnabled = true) : v2Refused cfg = true := by
  simp [v2Refused, Gen.v2RefusedWhenSecurity, hs]

theorem feedAll_done (spec : AbsSpec) (cfg : Cfg) (hs : cfg.securityEnabled = true) (reads : List (Nat × Bytes))
    (h : HC (feedAll spec cfg Eng.init reads).2.app) : Done spec cfg (feedAll spec cfg Eng.init reads).1 :=
  have hi := Inv.reachable spec cfg reads
  (hi.hc h).resolve_left fun hv => Bool.noConfusion ((hi.v2ref hv).symm.trans (v2Refused_of_secure hs))

end Rzmq
