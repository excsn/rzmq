import RzmqModel.Model.Shutdown
import RzmqModel.Proofs.Rpq
/-!
`Acct.Inv`: the wait group counts the living, and the waiter of `term()` cannot miss its wake-up: if the count is zero
while it is parked, it has been notified, because it registers before it checks (`WaitSt.Safe` of `Proofs/Rpq`, which
the last three clauses of `Acct.Inv` spell out: `Acct.inv_iff`) and the last exit signals.  So one poll ends the wait
once nothing is alive, and the first poll that ends it was made then.
The registry and the parking site each have a state that, once reached, is kept: `Registry.Gone` after `loopExit`,
`Park.Released` after `stop`.
-/
namespace Rzmq

theorem Acct.run_nil (a : Acct) : Acct.run a [] = a := rfl

theorem Acct.run_cons (a : Acct) (e : AcctEv) (r : List AcctEv) : Acct.run a (e :: r) = Acct.run (a.step e) r := rfl

theorem Acct.run_append (a : Acct) (l₁ l₂ : List AcctEv) : Acct.run a (l₁ ++ l₂) = Acct.run (Acct.run a l₁) l₂ :=
  List.foldl_append

theorem Acct.step_exit_alive (a : Acct) {id : Nat} (how : ExitHow) (h : id ∈ a.alive) :
    a.step (.exit id how) = { a with wg := a.wg - 1, alive := a.alive.erase id,
                                     waiter := if a.wg - 1 = 0 then a.waiter.signal else a.waiter } := by
  simp [Acct.step, h]

theorem Acct.step_exit_dead (a : Acct) {id : Nat} (how : ExitHow) (h : id ∉ a.alive) : a.step (.exit id how) = a := by
  simp [Acct.step, h]

/-- the accounting invariant: the wait group counts the living; the waiter's condition is "count == 0"; the waiter is
at a known pc, registered once past its check, and — the no-lost-wake-up part — if the condition holds while it is
parked, it has been notified -/
def Acct.Inv (a : Acct) : Prop :=
  a.wg = a.alive.length ∧ (a.waiter.cond = true ↔ a.wg = 0)
  ∧ (a.waiter.pc = 0 ∨ a.waiter.pc = 1 ∨ a.waiter.pc = 2)
  ∧ (a.waiter.pc = 1 → a.waiter.registered = true)
  ∧ (a.waiter.pc = 1 → a.waiter.cond = true → a.waiter.notified = true)

theorem Acct.inv_init : Acct.Inv {} := by simp [Acct.Inv]

/-- the last three clauses of `Acct.Inv` are `WaitSt.Safe` of the waiter -/
theorem Acct.inv_iff (a : Acct) :
    a.Inv ↔ a.wg = a.alive.length ∧ (a.waiter.cond = true ↔ a.wg = 0) ∧ a.waiter.Safe :=
  ⟨fun ⟨h1, h2, h3, h4, h5⟩ => ⟨h1, h2, h3, h4, h5⟩, fun ⟨h1, h2, h3, h4, h5⟩ => ⟨h1, h2, h3, h4, h5⟩⟩

theorem Acct.inv_step (a : Acct) (e : AcctEv) (h : a.Inv) : (a.step e).Inv := by
  rw [Acct.inv_iff] at h ⊢
  obtain ⟨h1, h2, hs⟩ := h
  cases e with
  | spawn => exact ⟨by simp [Acct.step, h1], by simp [Acct.step], hs.pc, hs.reg, fun _ => nofun⟩
  | exit id how =>
    by_cases hc : id ∈ a.alive
    · rw [Acct.step_exit_alive a how hc]
      have hlen : a.wg - 1 = (a.alive.erase id).length := by rw [List.length_erase_of_mem hc, h1]
      by_cases hz : a.wg - 1 = 0
      -- the last task ends: the waiter is signalled
      · simp only [hz, if_true]
        exact ⟨hz ▸ hlen, by simp [WaitSt.signal], hs.signal⟩
      · have hcf : a.waiter.cond ≠ true := fun hcond => hz (by rw [h2.1 hcond])
        simp only [hz, if_false]
        exact ⟨hlen, by simp [hcf], hs⟩
    · rw [Acct.step_exit_dead a how hc]
      exact ⟨h1, h2, hs⟩
  | poll => exact ⟨h1, by simpa [Acct.step, WaitSt.stepRegisterFirst_cond] using h2, hs.step⟩

theorem Acct.inv_reachable (evs : List AcctEv) : (Acct.run {} evs).Inv :=
  List.foldlRecOn evs _ Acct.inv_init fun a ha e _ => Acct.inv_step a e ha

theorem Acct.Inv.cond_iff_idle {a : Acct} (h : a.Inv) : a.waiter.cond = true ↔ a.alive = [] := by
  rw [h.2.1, h.1, List.length_eq_zero_iff]

/-- with the condition true, ONE poll completes the wait (from any reachable waiter state) -/
theorem Acct.poll_done (a : Acct) (h : a.Inv) (hc : a.waiter.cond = true) : (a.step .poll).waiter.pc = 2 :=
  ((Acct.inv_iff a).1 h).2.2.poll_done hc

theorem Acct.step_done (a : Acct) (h : a.Inv) (e : AcctEv) (hp : (a.step e).waiter.pc = 2) :
    a.waiter.pc = 2 ∨ (e = .poll ∧ a.alive = []) := by
  cases e with
  | spawn => exact Or.inl hp
  | exit id how =>
    left
    by_cases hc : id ∈ a.alive
    · rw [Acct.step_exit_alive a how hc] at hp
      -- a signal leaves the pc alone
      split at hp <;> exact hp
    · rwa [Acct.step_exit_dead a how hc] at hp
  | poll =>
    rcases (WaitSt.stepRegisterFirst_pc_two a.waiter).1 hp with h2 | ⟨hc, _⟩
    · exact Or.inl h2
    · exact Or.inr ⟨rfl, h.cond_iff_idle.1 hc⟩

theorem Acct.first_release_poll (a : Acct) (ha : a.Inv) (hn : a.waiter.pc ≠ 2) (evs : List AcctEv)
    (hp : (Acct.run a evs).waiter.pc = 2) :
    ∃ pre post, evs = pre ++ .poll :: post ∧ (Acct.run a pre).alive = [] ∧ (Acct.run a pre).waiter.pc ≠ 2
      ∧ (Acct.run a (pre ++ [.poll])).waiter.pc = 2 := by
  induction evs generalizing a with
  | nil => exact absurd hp hn
  | cons e r ih =>
    by_cases hd : (a.step e).waiter.pc = 2
    · rcases Acct.step_done a ha e hd with h3 | ⟨rfl, hidle⟩
      · exact absurd h3 hn
      · exact ⟨[], r, rfl, hidle, hn, hd⟩
    · obtain ⟨pre, post, rfl, h1, h2, h3⟩ := ih (a.step e) (Acct.inv_step a e ha) hd hp
      exact ⟨e :: pre, post, rfl, h1, h2, h3⟩

/-- the waiter in `term()` is done only if one of the polls in the history — the one that released it, the first at
which it is done — was made while no actor was alive -/
theorem waiter_done_first_release_poll (evs : List AcctEv) (h : (Acct.run {} evs).waiter.pc = 2) :
    ∃ pre post, evs = pre ++ .poll :: post ∧ (Acct.run {} pre).alive = [] ∧ (Acct.run {} pre).waiter.pc ≠ 2
      ∧ (Acct.run {} (pre ++ [.poll])).waiter.pc = 2 :=
  Acct.first_release_poll {} Acct.inv_init (by simp) evs h

theorem Acct.idle_one_poll (evs : List AcctEv) (hidle : (Acct.run {} evs).alive = []) :
    (Acct.run {} (evs ++ [.poll])).waiter.pc = 2 := by
  rw [Acct.run_append]
  exact Acct.poll_done _ (Acct.inv_reachable evs) ((Acct.inv_reachable evs).cond_iff_idle.2 hidle)

theorem sessionInHandshake_learnsBy (sub : Bool) :
    (sessionInHandshake sub).learnsBy = some (if sub then 0 else 100) := by
  cases sub <;> decide

theorem connecterRetrying_learnsBy (sub : Bool) (ivl : Nat) :
    (connecterRetrying sub ivl).learnsBy = some (if sub then 0 else ivl) := by
  cases sub <;> simp [connecterRetrying, Notice.learnsBy, Gen.connecterAbortIsFinal, Gen.connecterChecksParentRunning]

/-- socket `s` is gone from the registry: neither registered nor the owner of any name -/
def Registry.Gone (r : Registry) (s : Nat) : Prop := s ∉ r.sockets ∧ ∀ n, (n, s) ∉ r.inproc

theorem Registry.gone_loopExit (r : Registry) (s : Nat) : (r.step (.loopExit s)).Gone s := by
  simp [Registry.Gone, Registry.step, Gen.commandLoopUnregistersSocket, Gen.commandLoopUnregistersInprocNames]

theorem Registry.gone_step (r : Registry) (s : Nat) (e : RegEv) (h : r.Gone s) (he : e ≠ .register s) :
    (r.step e).Gone s := by
  obtain ⟨h1, h2⟩ := h
  cases e with
  | register s' =>
    refine ⟨?_, h2⟩
    simp only [Registry.step, List.mem_append, List.mem_singleton, not_or]
    exact ⟨h1, fun hh => he (by rw [hh])⟩
  | bindInproc s' n' =>
    simp only [Registry.step]
    split
    · exact ⟨h1, h2⟩
    · rename_i hcond
      -- a socket that is not registered cannot bind
      refine ⟨h1, fun n hmem => ?_⟩
      simp only [List.mem_append, List.mem_singleton, Prod.mk.injEq] at hmem
      rcases hmem with hmem | ⟨_, rfl⟩
      · exact h2 n hmem
      · exact hcond (by simp [h1])
  | loopExit s' =>
    -- filtered or not, both lists only shrink
    simp only [Registry.Gone, Registry.step]
    constructor
    · split
      · exact fun hm => h1 (List.mem_filter.1 hm).1
      · exact h1
    · intro n
      split
      · exact fun hm => h2 n (List.mem_filter.1 hm).1
      · exact h2 n

/-- after socket `s`'s command loop has ended and as long as `s` is not registered again, `s` is gone from the registry
(from ANY start state) -/
theorem Registry.gone_after_loopExit (r : Registry) (pre post : List RegEv) (s : Nat) (hpost : RegEv.register s ∉ post) :
    (Registry.run r (pre ++ [RegEv.loopExit s] ++ post)).Gone s := by
  simp only [Registry.run, List.foldl_append]
  exact List.foldlRecOn (motive := (Registry.Gone · s)) post _ (Registry.gone_loopExit _ s) fun r hr e he =>
    Registry.gone_step r s e hr fun heq => hpost (heq ▸ he)

def goodSite : ParkCfg := { reaches := true, wakesAll := true, checksFlag := true }

/-- the site has been signalled and nobody waits at it -/
def Park.Released (p : Park) : Prop := p.flag = true ∧ p.parked = []

theorem Park.released_stop (p : Park) : (Park.step goodSite p .stop).Released := ⟨rfl, rfl⟩

theorem Park.released_step (p : Park) (e : ParkEv) (h : p.Released) : (Park.step goodSite p e).Released := by
  cases e with
  -- a caller that arrives later sees the flag and returns
  | arrive t => simp [Park.step, goodSite, Park.Released, h.1, h.2]
  | stop => exact Park.released_stop p

theorem Park.after_stop_nobody_parked (p : Park) (pre post : List ParkEv) :
    (Park.run goodSite p (pre ++ [.stop] ++ post)).parked = [] := by
  simp only [Park.run, List.foldl_append]
  exact (List.foldlRecOn (motive := Park.Released) post _ (Park.released_stop _)
    fun q hq e _ => Park.released_step q e hq).2

/-- in every history: while the flag is up nobody is parked (`Released`, once reached, is kept; this is what holds before) -/
theorem Park.flag_up_nobody_parked (p : Park) (evs : List ParkEv) (h : p.flag = true → p.parked = []) :
    (Park.run goodSite p evs).flag = true → (Park.run goodSite p evs).parked = [] := by
  refine List.foldlRecOn (motive := fun q : Park => q.flag = true → q.parked = []) evs _ h fun q hq e _ => ?_
  cases e with
  -- a caller parks only while the flag is down
  | arrive t =>
    cases hf : q.flag with
    | false => cases hp : q.permit <;> simp [Park.step, goodSite, hf, hp]
    | true => simpa [Park.step, goodSite, hf] using hq hf
  | stop => exact fun _ => rfl

/-- no event lowers the flag, whatever the site -/
theorem Park.flag_monotone (c : ParkCfg) (p : Park) (evs : List ParkEv) (h : p.flag = true) :
    (Park.run c p evs).flag = true :=
  List.foldlRecOn (motive := fun q : Park => q.flag = true) evs _ h fun q hq e _ => by
    fun_cases Park.step c q e <;> first | exact hq | rfl

theorem Park.unreached_returned (c : ParkCfg) (hc : c.reaches = false) (p : Park) (hf : p.flag = false)
    (hp : p.permit = false) (evs : List ParkEv) : (Park.run c p evs).returned = p.returned := by
  refine (List.foldlRecOn (motive := fun q : Park => q.flag = false ∧ q.permit = false ∧ q.returned = p.returned) evs _
    ⟨hf, hp, rfl⟩ fun q hq e _ => ?_).2.2
  obtain ⟨h1, h2, h3⟩ := hq
  cases e <;> simp [Park.step, hc, h1, h2, h3]

def ParkEv.isArrive : ParkEv → Bool
  | .arrive _ => true
  | .stop => false

theorem Park.step_conservation (c : ParkCfg) (p : Park) (e : ParkEv) :
    (Park.step c p e).parked.length + (Park.step c p e).returned.length
      = p.parked.length + p.returned.length + (if e.isArrive then 1 else 0) := by
  -- an arrival (1-4) appends the caller to one of the two lists; a stop moves nobody (5, 7), the first parked caller
  -- (8) or all of them (6) from `parked` to `returned`
  fun_cases Park.step c p e with
  | case5 | case7 => rfl
  | case8 _ _ t rest hp => simp +arith [ParkEv.isArrive, hp]
  | _ => simp +arith [ParkEv.isArrive]

/-- nobody is lost: the callers that arrived are exactly those parked or returned (lengths add up) -/
theorem Park.conservation (c : ParkCfg) (p : Park) (evs : List ParkEv) :
    (Park.run c p evs).parked.length + (Park.run c p evs).returned.length
      = p.parked.length + p.returned.length + (evs.filter ParkEv.isArrive).length := by
  induction evs generalizing p with
  | nil => rfl
  | cons e es ih =>
    rw [show Park.run c p (e :: es) = Park.run c (Park.step c p e) es from rfl, ih, Park.step_conservation,
      List.filter_cons]
    split <;> simp +arith

end Rzmq
