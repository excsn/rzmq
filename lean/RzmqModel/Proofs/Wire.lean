import RzmqModel.Model.Wire
/-!
Lemmas about the wire model (C03, C07).

Every decoder begins with the same step: read the flags byte, wait for the 2- or 9-byte header, read the
length field.  That step is `parseHdr`; what it does on a header the encoder wrote (`parseHdr_codecHeader`) and
on a buffer that grows (`parseHdr_eq_some`) is proved once, and one equation per decoder carries it over.

A decision of the live decoder is not changed by bytes that arrive later (`decodeBuffer_append`); hence
`decodeAll_append`, and from it everything about cutting a stream into reads.  The tokio codec consumes the
header before the body is there; it is shown to be the live decoder with the codec's size limit by a
simulation (`CodecRep`), and inherits the rest.
-/
namespace Rzmq

/-- the `k` low base-256 digits of `n`, most significant first (`be64 = beBytes 8`) -/
def beBytes : Nat → Nat → List UInt8
  | 0, _ => []
  | k + 1, n => beBytes k (n / 256) ++ [UInt8.ofNat n]

theorem ofBe_concat (l : List UInt8) (b : UInt8) : ofBe (l ++ [b]) = ofBe l * 256 + b.toNat := by
  simp only [ofBe, List.foldl_append, List.foldl_cons, List.foldl_nil]

theorem ofBe_beBytes (k n : Nat) : ofBe (beBytes k n) = n % 256 ^ k := by
  induction k generalizing n with
  | zero => rw [Nat.pow_zero, Nat.mod_one]; rfl
  | succ k ih =>
    rw [Nat.pow_succ, Nat.mul_comm _ 256, Nat.mod_mul, beBytes, ofBe_concat, ih, UInt8.toNat_ofNat',
      Nat.add_comm, Nat.mul_comm]

theorem beBytes_ofBe : ∀ (k : Nat) (l : List UInt8), l.length = k → beBytes k (ofBe l) = l
  | 0, l, h => by rw [List.length_eq_zero_iff.1 h]; rfl
  | k + 1, l, h => by
    rcases List.eq_nil_or_concat l with rfl | ⟨l', b, rfl⟩
    · cases h
    · rw [List.concat_eq_append] at h ⊢
      have hb := b.toNat_lt
      rw [ofBe_concat, beBytes, Nat.mul_comm, Nat.mul_add_div (by decide), Nat.div_eq_of_lt hb, Nat.add_zero,
        beBytes_ofBe k l' (by simpa using h)]
      congr 2
      apply UInt8.toNat_inj.mp
      rw [UInt8.toNat_ofNat', Nat.mul_add_mod, Nat.mod_eq_of_lt hb]

theorem be64_eq_beBytes (n : Nat) : be64 n = beBytes 8 n := by
  simp only [beBytes, be64, Nat.div_div_eq_div_mul, List.nil_append, List.cons_append, Nat.reduceMul]

theorem ofBe_be64_mod (n : Nat) : ofBe (be64 n) = n % two64 := by
  rw [be64_eq_beBytes, ofBe_beBytes]
  rfl

theorem be64_length' (n : Nat) : (be64 n).length = 8 := rfl

theorem drop8_be64 (n : Nat) (t : List UInt8) : (be64 n ++ t).drop 8 = t := rfl
theorem take8_be64 (n : Nat) (t : List UInt8) : (be64 n ++ t).take 8 = be64 n := rfl

/-- the flags byte the codec encoder writes (without the LONG bit) -/
def codecFlags (f : Frame) : UInt8 :=
  flagBits f.more f.command Gen.ZMTP_FLAG_MORE Gen.ZMTP_FLAG_COMMAND

/-- the header the codec encoder writes for `f` when its payload has `n` bytes: `encodeCodec f` is
`codecHeader f f.payload.length ++ f.payload` by definition -/
def codecHeader (f : Frame) (n : Nat) : List UInt8 :=
  header Gen.codecEncodeShortMax (codecFlags f) Gen.ZMTP_FLAG_LONG n

theorem codecHeader_short (f : Frame) {n : Nat} (h : n ≤ 255) : codecHeader f n = [codecFlags f, UInt8.ofNat n] :=
  if_pos h

theorem codecHeader_long (f : Frame) {n : Nat} (h : 255 < n) :
    codecHeader f n = (codecFlags f ||| Gen.ZMTP_FLAG_LONG) :: be64 n :=
  if_neg (Nat.not_le_of_gt h)

theorem codecHeader_length (f : Frame) (n : Nat) : (codecHeader f n).length = if n ≤ 255 then 2 else 9 := by
  split
  · rw [codecHeader_short f ‹_›]; rfl
  · rw [codecHeader_long f (Nat.lt_of_not_le ‹_›)]; rfl

theorem flagBits_tests (m c l : Bool) :
    let fl := flagBits m c Gen.ZMTP_FLAG_MORE Gen.ZMTP_FLAG_COMMAND
    let fl' := if l then fl ||| Gen.ZMTP_FLAG_LONG else fl
    isLong fl' = l ∧ isMore fl' = m ∧ isCommand fl' = c := by
  cases m <;> cases c <;> cases l <;> decide

theorem isLong_codecFlags (f : Frame) : isLong (codecFlags f) = false :=
  (flagBits_tests f.more f.command false).1

theorem isLong_codecFlags_long (f : Frame) :
    isLong (codecFlags f ||| Gen.ZMTP_FLAG_LONG) = true :=
  (flagBits_tests f.more f.command true).1

theorem mkFrame_codecFlags (f : Frame) (l : Bool) :
    mkFrame (if l then codecFlags f ||| Gen.ZMTP_FLAG_LONG else codecFlags f) f.payload = f := by
  obtain ⟨-, hm, hc⟩ := flagBits_tests f.more f.command l
  simp only [mkFrame, codecFlags, hm, hc]

theorem rawSize_short (fl b : UInt8) (t : List UInt8) (h : isLong fl = false) :
    rawSize fl (b :: t) = b.toNat := by
  simp only [rawSize, h, List.headD_cons, Bool.false_eq_true, if_false]

theorem rawSize_long (fl : UInt8) (n : Nat) (t : List UInt8) (h : isLong fl = true) (hn : n < two64) :
    rawSize fl (be64 n ++ t) = n := by
  simp only [rawSize, h, if_true, take8_be64, ofBe_be64_mod, Nat.mod_eq_of_lt hn]

/-- The header length all decoders agree on.  In the model each decoder reads its own pair of constants re-extracted from
its source (`Gen.bufferLongHdr`/`bufferShortHdr`, `Gen.peekLongHdr`/.., `Gen.codecDecLongHdr`/.., and `Gen.sliceLongHdr`/..,
`Gen.bytesLongHdr`/.. as arguments of `decodeSliceLike`); that each pair is 9 and 2 is checked where the decoder's equation
below is closed by `if_pos`/`if_neg`/`rfl` or by unification: a changed constant makes that step fail. -/
def hdrLen (fl : UInt8) : Nat := if isLong fl then 9 else 2

theorem hdrLen_bounds (fl : UInt8) : 2 ≤ hdrLen fl ∧ hdrLen fl ≤ 9 := by
  unfold hdrLen
  split <;> decide

/-- What every decoder does first: once the header is complete, the flags byte, the announced length and
the bytes after the header. -/
def parseHdr : List UInt8 → Option (UInt8 × Nat × List UInt8)
  | [] => none
  | fl :: tl =>
    if tl.length + 1 < hdrLen fl then none else some (fl, rawSize fl tl, tl.drop (hdrLen fl - 1))

theorem parseHdr_cons (fl : UInt8) (tl : List UInt8) :
    parseHdr (fl :: tl) =
      if tl.length + 1 < hdrLen fl then none else some (fl, rawSize fl tl, tl.drop (hdrLen fl - 1)) :=
  rfl

theorem rawSize_append (fl : UInt8) (hdr b : List UInt8) (h : hdrLen fl ≤ hdr.length + 1) :
    rawSize fl (hdr ++ b) = rawSize fl hdr := by
  unfold hdrLen at h
  unfold rawSize
  cases hl : isLong fl
  · cases hdr with
    | nil => exact absurd (hl ▸ h) (by decide)
    | cons x t => rfl
  · simp only [hl, if_true] at h ⊢
    rw [List.take_append_of_le_length (by omega)]

theorem parseHdr_eq_some {a : List UInt8} {fl : UInt8} {raw : Nat} {body : List UInt8} :
    parseHdr a = some (fl, raw, body) ↔
      ∃ hdr, a = fl :: (hdr ++ body) ∧ hdr.length + 1 = hdrLen fl ∧ rawSize fl hdr = raw := by
  constructor
  · intro h
    cases a with
    | nil => cases h
    | cons x tl =>
      rw [parseHdr_cons] at h
      split at h
      · cases h
      · cases h
        have := hdrLen_bounds fl
        have hk : (tl.take (hdrLen fl - 1)).length + 1 = hdrLen fl := by
          rw [List.length_take]
          omega
        refine ⟨tl.take (hdrLen fl - 1), by rw [List.take_append_drop], hk, ?_⟩
        rw [← rawSize_append fl _ (tl.drop (hdrLen fl - 1)) (Nat.le_of_eq hk.symm), List.take_append_drop]
  · rintro ⟨hdr, rfl, hl, rfl⟩
    rw [parseHdr_cons, if_neg (by rw [List.length_append]; omega),
      rawSize_append fl hdr body (Nat.le_of_eq hl.symm), List.drop_left' (by omega)]

theorem parseHdr_short (fl b : UInt8) (t : List UInt8) (h : isLong fl = false) :
    parseHdr (fl :: b :: t) = some (fl, b.toNat, t) :=
  parseHdr_eq_some.mpr ⟨[b], rfl, by rw [hdrLen, h]; rfl, rawSize_short fl b [] h⟩

theorem parseHdr_long (fl : UInt8) (n : Nat) (t : List UInt8) (h : isLong fl = true) (hn : n < two64) :
    parseHdr (fl :: (be64 n ++ t)) = some (fl, n, t) :=
  parseHdr_eq_some.mpr ⟨be64 n, rfl, by rw [hdrLen, h]; rfl, rawSize_long fl n [] h hn⟩

/-- What every decoder reads off a header the codec encoder wrote, whatever follows it (the payload, part of it, or
nothing yet). -/
theorem parseHdr_codecHeader (f : Frame) (x : List UInt8) {n : Nat} (h : n < two64) :
    ∃ fl, parseHdr (codecHeader f n ++ x) = some (fl, n, x) ∧ mkFrame fl f.payload = f := by
  by_cases hs : n ≤ 255
  · refine ⟨codecFlags f, ?_, mkFrame_codecFlags f false⟩
    rw [codecHeader_short f hs, List.cons_append, List.cons_append, parseHdr_short _ _ _ (isLong_codecFlags f),
      UInt8.toNat_ofNat_of_lt' (Nat.lt_succ_of_le hs), List.nil_append]
  · refine ⟨codecFlags f ||| Gen.ZMTP_FLAG_LONG, ?_, mkFrame_codecFlags f true⟩
    rw [codecHeader_long f (Nat.lt_of_not_le hs), List.cons_append, parseHdr_long _ _ _ (isLong_codecFlags_long f) h]

theorem parseHdr_encodeCodec (f : Frame) (rest : List UInt8) (h : f.payload.length < two64) :
    ∃ fl, parseHdr (encodeCodec f ++ rest) = some (fl, f.payload.length, f.payload ++ rest)
      ∧ mkFrame fl f.payload = f := by
  obtain ⟨fl, hp, hf⟩ := parseHdr_codecHeader f (f.payload ++ rest) h
  exact ⟨fl, List.append_assoc .. ▸ hp, hf⟩

theorem parseHdr_append {a : List UInt8} {fl : UInt8} {raw : Nat} {body : List UInt8} (b : List UInt8)
    (h : parseHdr a = some (fl, raw, body)) : parseHdr (a ++ b) = some (fl, raw, body ++ b) := by
  obtain ⟨hdr, rfl, hl, hr⟩ := parseHdr_eq_some.mp h
  exact parseHdr_eq_some.mpr ⟨hdr, by rw [List.cons_append, List.append_assoc], hl, hr⟩

theorem parseHdr_length {a : List UInt8} {fl : UInt8} {raw : Nat} {body : List UInt8}
    (h : parseHdr a = some (fl, raw, body)) : a.length = hdrLen fl + body.length := by
  obtain ⟨hdr, rfl, hl, -⟩ := parseHdr_eq_some.mp h
  rw [List.length_cons, List.length_append, ← hl, Nat.add_right_comm]

theorem parseHdr_suffix {a : List UInt8} {fl : UInt8} {raw : Nat} {body : List UInt8}
    (h : parseHdr a = some (fl, raw, body)) : body <:+ a := by
  obtain ⟨hdr, rfl, -, -⟩ := parseHdr_eq_some.mp h
  exact ⟨fl :: hdr, rfl⟩

theorem length_lt_of_parseHdr_none {a : List UInt8} (h : parseHdr a = none) : a.length < 9 := by
  cases a with
  | nil => decide
  | cons fl tl =>
    rw [parseHdr_cons] at h
    split at h
    · have := hdrLen_bounds fl
      rw [List.length_cons]
      omega
    · cases h

theorem decodeBuffer_eq (max : Int) (src : List UInt8) :
    decodeBuffer max src =
      match parseHdr src with
      | none => .needMore
      | some (fl, raw, body) =>
        if exceeds max raw then .error
        else if body.length < raw then .needMore
        else .frame (mkFrame fl (body.take raw)) (body.drop raw) := by
  cases src with
  | nil => rfl
  | cons fl tl =>
    have hlen : (tl.drop (hdrLen fl - 1)).length = tl.length + 1 - hdrLen fl := by
      have := hdrLen_bounds fl
      rw [List.length_drop]
      omega
    rw [parseHdr_cons]
    by_cases h : tl.length + 1 < hdrLen fl
    · rw [if_pos h]
      exact if_pos h
    · rw [if_neg h]
      simp only [hlen]
      exact if_neg h

/-- A frame the live decoder hands out, whatever the bytes and the limit: the header announces its payload, which is
within the limit, and payload and rest are what follows the header. -/
theorem decodeBuffer_eq_frame {max : Int} {src : List UInt8} {f : Frame} {rest : List UInt8}
    (h : decodeBuffer max src = .frame f rest) :
    ∃ fl, parseHdr src = some (fl, f.payload.length, f.payload ++ rest) ∧ exceeds max f.payload.length = false := by
  rw [decodeBuffer_eq] at h
  split at h
  · cases h
  · rename_i fl raw body hp
    split at h
    · cases h
    · rename_i hex
      split at h
      · cases h
      · rename_i hlen
        cases h
        have hr : (body.take raw).length = raw := by rw [List.length_take]; omega
        exact ⟨fl, by rw [mkFrame, hr, List.take_append_drop]; exact hp, by rw [mkFrame, hr]; simpa using hex⟩

/-- the minimum-length test of the slice and `Bytes` decoders is subsumed by the header test -/
theorem decodeSliceLike_eq_decodeBuffer (minLen : Nat) (h : minLen ≤ 2) (max : Int) (src : List UInt8) :
    decodeSliceLike minLen 9 2 max src = decodeBuffer max src := by
  unfold decodeSliceLike
  by_cases hlen : src.length < minLen
  · rw [if_pos hlen, decodeBuffer_eq]
    cases hp : parseHdr src with
    | none => rfl
    | some x =>
      have := parseHdr_length hp
      have := hdrLen_bounds x.1
      omega
  · rw [if_neg hlen]
    cases src <;> rfl

theorem decodeSlice_eq (max : Int) (src : List UInt8) : decodeSlice max src = decodeBuffer max src :=
  decodeSliceLike_eq_decodeBuffer Gen.sliceMinLen (by decide) max src

theorem decodeBytes_eq (max : Int) (src : List UInt8) : decodeBytes max src = decodeBuffer max src :=
  decodeSliceLike_eq_decodeBuffer Gen.bytesMinLen (by decide) max src

theorem peekFrameLen_eq (max : Int) (src : List UInt8) :
    peekFrameLen max src =
      match parseHdr src with
      | none => .needMore
      | some (fl, raw, _) =>
        if exceeds max raw then .error
        else if two64 ≤ hdrLen fl + raw then .error
        else .total (hdrLen fl + raw) := by
  cases src with
  | nil => rfl
  | cons fl tl =>
    rw [parseHdr_cons]
    by_cases h : tl.length + 1 < hdrLen fl
    · rw [if_pos h]
      exact if_pos h
    · rw [if_neg h]
      exact if_neg h

theorem exceeds_natCast (m raw : Nat) : exceeds (m : Int) raw = decide (m < raw) := by
  simp only [exceeds, Int.natCast_nonneg, decide_true, Bool.true_and, Int.toNat_natCast]

theorem not_exceeds (max : Int) (n : Nat) (h : max < 0 ∨ n ≤ max.toNat) : exceeds max n = false := by
  simp only [exceeds, Bool.and_eq_false_iff, decide_eq_false_iff_not]
  omega

theorem decodeBuffer_encode' (max : Int) (f : Frame) (rest : List UInt8)
    (hok : f.payload.length < two64) (hmax : max < 0 ∨ f.payload.length ≤ max.toNat) :
    decodeBuffer max (encodeCodec f ++ rest) = .frame f rest := by
  obtain ⟨fl, hp, hf⟩ := parseHdr_encodeCodec f rest hok
  rw [decodeBuffer_eq, hp]
  simp only [not_exceeds max _ hmax, Bool.false_eq_true, if_false, List.length_append,
    List.take_left', List.drop_left', hf]
  rw [if_neg (by omega)]

theorem decodeBuffer_ne_panic (max : Int) (src : List UInt8) : decodeBuffer max src ≠ .panic := by
  rw [decodeBuffer_eq]
  repeat' split
  all_goals exact Dec.noConfusion

/-- the length field is checked against the limit as soon as the header is there -/
theorem needMore_bounded' (m : Nat) (src : List UInt8) (h : decodeBuffer (m : Int) src = .needMore) :
    src.length < 9 + m := by
  rw [decodeBuffer_eq] at h
  split at h
  · have := length_lt_of_parseHdr_none ‹_›
    omega
  · rename_i fl raw body hp
    have := parseHdr_length hp
    have := hdrLen_bounds fl
    rw [exceeds_natCast] at h
    split at h
    · cases h
    · split at h
      · simp only [decide_eq_true_eq] at *
        omega
      · cases h

theorem decodeBuffer_append {max : Int} {a : List UInt8} (b : List UInt8)
    (h : decodeBuffer max a ≠ .needMore) :
    decodeBuffer max (a ++ b) =
      match decodeBuffer max a with
      | .frame f r => .frame f (r ++ b)
      | d => d := by
  rw [decodeBuffer_eq] at h ⊢
  rw [decodeBuffer_eq]
  cases hp : parseHdr a with
  | none => rw [hp] at h; exact absurd rfl h
  | some x =>
    obtain ⟨fl, raw, body⟩ := x
    rw [hp] at h
    rw [parseHdr_append b hp]
    simp only at h ⊢
    by_cases hex : exceeds max raw = true
    · simp only [if_pos hex]
    · simp only [if_neg hex] at h ⊢
      by_cases hlen : body.length < raw
      · exact absurd (if_pos hlen) h
      · rw [if_neg hlen, if_neg (by rw [List.length_append]; omega),
          List.take_append_of_le_length (by omega), List.drop_append_of_le_length (by omega)]

theorem decodeBuffer_append_frame {max : Int} {a : List UInt8} {f : Frame} {r : List UInt8}
    (b : List UInt8) (h : decodeBuffer max a = .frame f r) :
    decodeBuffer max (a ++ b) = .frame f (r ++ b) := by
  rw [decodeBuffer_append b (by rw [h]; exact Dec.noConfusion), h]

theorem decodeBuffer_append_error {max : Int} {a : List UInt8}
    (b : List UInt8) (h : decodeBuffer max a = .error) :
    decodeBuffer max (a ++ b) = .error := by
  rw [decodeBuffer_append b (by rw [h]; exact Dec.noConfusion), h]

theorem decodeAll_eq (max : Int) (src : List UInt8) :
    decodeAll max src =
      match decodeBuffer max src with
      | .needMore => ([], .more, src)
      | .error => ([], .err, src)
      | .panic => ([], .panic, src)
      | .frame f rest => (f :: (decodeAll max rest).1, (decodeAll max rest).2) := by
  rw [decodeAll]
  split <;> simp_all

theorem decodeAll_append (max : Int) (a b : List UInt8) :
    decodeAll max (a ++ b) =
      match decodeAll max a with
      | (fs, .more, r) => (fs ++ (decodeAll max (r ++ b)).1, (decodeAll max (r ++ b)).2)
      | (fs, st, r) => (fs, st, r ++ b) := by
  -- case1..case4: `decodeBuffer` answers needMore, error, panic, frame
  fun_induction decodeAll max a with
  | case1 src h => rfl
  | case2 src h => rw [decodeAll_eq, decodeBuffer_append_error b h]
  | case3 src h => exact absurd h (decodeBuffer_ne_panic max src)
  | case4 src f rest h r ih =>
    rw [decodeAll_eq, decodeBuffer_append_frame b h]
    simp only [ih, r]
    rcases decodeAll max rest with ⟨fs, st, rem⟩
    cases st <;> rfl

theorem decodeAll_nil (max : Int) : decodeAll max [] = ([], .more, []) := by
  rw [decodeAll_eq]
  rfl

theorem decodeAll_prefix (max : Int) (a b : List UInt8) :
    (decodeAll max a).1 <+: (decodeAll max (a ++ b)).1 := by
  rw [decodeAll_append]
  rcases decodeAll max a with ⟨fs, st, r⟩
  cases st
  · exact List.prefix_append _ _
  · exact List.prefix_refl _
  · exact List.prefix_refl _

theorem decodeAll_encode' (max : Int) (fs : List Frame)
    (hok : ∀ f ∈ fs, f.payload.length < two64) (hmax : ∀ f ∈ fs, max < 0 ∨ f.payload.length ≤ max.toNat) :
    decodeAll max (fs.map encodeCodec).flatten = (fs, .more, []) := by
  induction fs with
  | nil => exact decodeAll_nil max
  | cons f fs ih =>
    rw [List.forall_mem_cons] at hok hmax
    rw [List.map_cons, List.flatten_cons, decodeAll_eq, decodeBuffer_encode' max f _ hok.1 hmax.1]
    simp only [ih hok.2 hmax.2]

theorem decodeAll_prefix_of_encoded (max : Int) (fs : List Frame) (bytes : List UInt8)
    (hok : ∀ f ∈ fs, f.payload.length < two64) (hmax : ∀ f ∈ fs, max < 0 ∨ f.payload.length ≤ max.toNat)
    (hp : bytes <+: (fs.map encodeCodec).flatten) :
    (decodeAll max bytes).1 <+: fs := by
  obtain ⟨b, hb⟩ := hp
  have h := decodeAll_prefix max bytes b
  rwa [hb, decodeAll_encode' max fs hok hmax] at h

theorem feedChunks_closed (max : Int) (s : RxState) (h : s.closed = true) (chunks : List (List UInt8)) :
    feedChunks max s chunks = (s, []) := by
  induction chunks with
  | nil => rfl
  | cons c cs ih =>
    simp only [feedChunks, feed, h, if_true, ih, List.append_nil]

theorem feed_append (max : Int) (s : RxState) (hs : s.closed = false) (a b : List UInt8) :
    feed max s (a ++ b) =
      if (feed max s a).1.closed then
        ({ (feed max s a).1 with acc := (feed max s a).1.acc ++ b }, (feed max s a).2)
      else ((feed max (feed max s a).1 b).1, (feed max s a).2 ++ (feed max (feed max s a).1 b).2) := by
  simp only [feed, hs, Bool.false_eq_true, if_false, ← List.append_assoc, decodeAll_append max (s.acc ++ a) b]
  rcases decodeAll max (s.acc ++ a) with ⟨fs, st, r⟩
  cases st <;> rfl

theorem feedChunks_spec (max : Int) (chunks : List (List UInt8)) :
    ∀ (s : RxState), s.closed = false → chunks ≠ [] →
    (feedChunks max s chunks).2 = (feed max s chunks.flatten).2
    ∧ (feedChunks max s chunks).1.closed = (feed max s chunks.flatten).1.closed
    ∧ ((feedChunks max s chunks).1.closed = false →
        (feedChunks max s chunks).1.acc = (feed max s chunks.flatten).1.acc) := by
  induction chunks with
  | nil => intro s _ h; exact absurd rfl h
  | cons c cs ih =>
    intro s hs _
    rw [List.flatten_cons, feedChunks]
    by_cases hcs : cs = []
    · rw [hcs, List.flatten_nil, List.append_nil]
      exact ⟨List.append_nil _, rfl, fun _ => rfl⟩
    · rw [feed_append max s hs]
      cases hc : (feed max s c).1.closed with
      | true =>
        rw [feedChunks_closed max _ hc, if_pos rfl]
        exact ⟨List.append_nil _, rfl, fun h => Bool.noConfusion (hc.symm.trans h)⟩
      | false =>
        obtain ⟨ih1, ih2, ih3⟩ := ih _ hc hcs
        rw [if_neg Bool.false_ne_true]
        exact ⟨congrArg ((feed max s c).2 ++ ·) ih1, ih2, ih3⟩

theorem codecDecodeOne_readBody (fl : UInt8) (size : Nat) (src : List UInt8) :
    codecDecodeOne (.readBody fl size) src =
      if src.length < size then (none, false, .readBody fl size, src)
      else (some (mkFrame fl (src.take size)), false, .readHeader, src.drop size) := by
  simp only [codecDecodeOne]

theorem codecDecodeOne_readHeader (src : List UInt8) :
    codecDecodeOne .readHeader src =
      match parseHdr src with
      | none => (none, false, .readHeader, src)
      | some (fl, raw, body) =>
        if Gen.CODEC_MAX_FRAME_SIZE < raw then (none, true, .readHeader, body)
        else codecDecodeOne (.readBody fl raw) body := by
  cases src with
  | nil => rfl
  | cons fl tl =>
    rw [parseHdr_cons]
    by_cases h : tl.length + 1 < hdrLen fl
    · rw [if_pos h]
      exact if_pos h
    · rw [if_neg h]
      exact if_neg h

/-- the codec's limit as a `max_msg_size` of the live decoder -/
def codecMax : Int := (Gen.CODEC_MAX_FRAME_SIZE : Nat)

theorem exceeds_codecMax (raw : Nat) : exceeds codecMax raw = true ↔ Gen.CODEC_MAX_FRAME_SIZE < raw := by
  rw [codecMax, exceeds_natCast, decide_eq_true_eq]

/-- `acc` is what the live decoder would hold where the codec holds `buf` in phase `ph`: the same bytes, or
in `readBody` the same bytes behind the header the codec has consumed already.  (A pending body is never
empty: `readBody` is entered only when fewer bytes than announced are there.) -/
def CodecRep : CodecPhase → List UInt8 → List UInt8 → Prop
  | .readHeader, buf, acc => acc = buf
  | .readBody fl raw, buf, acc =>
    parseHdr acc = some (fl, raw, buf) ∧ 0 < raw ∧ raw ≤ Gen.CODEC_MAX_FRAME_SIZE

theorem CodecRep.append {ph : CodecPhase} {buf acc : List UInt8} (h : CodecRep ph buf acc) (c : List UInt8) :
    CodecRep ph (buf ++ c) (acc ++ c) := by
  cases ph with
  | readHeader => exact congrArg (· ++ c) h
  | readBody fl raw => exact ⟨parseHdr_append c h.1, h.2⟩

theorem CodecRep.decodeOne {ph : CodecPhase} {buf acc : List UInt8} (h : CodecRep ph buf acc) :
    codecDecodeOne ph buf = codecDecodeOne .readHeader acc := by
  cases ph with
  | readHeader => rw [show acc = buf from h]
  | readBody fl raw =>
    rw [codecDecodeOne_readHeader, h.1]
    exact (if_neg (Nat.not_lt_of_le h.2.2)).symm

/-- `rest.length < buf.length` is what the fuel of `codecDrain` needs. -/
theorem codecDecodeOne_agrees {ph : CodecPhase} {buf acc : List UInt8} (h : CodecRep ph buf acc) :
    match decodeBuffer codecMax acc with
    | .needMore => ∃ ph' buf', codecDecodeOne ph buf = (none, false, ph', buf') ∧ CodecRep ph' buf' acc
    | .error => ∃ ph' buf', codecDecodeOne ph buf = (none, true, ph', buf')
    | .frame f rest => codecDecodeOne ph buf = (some f, false, .readHeader, rest) ∧ rest.length < buf.length
    | .panic => False := by
  have hlt : ∀ fl raw body, parseHdr acc = some (fl, raw, body) → raw ≤ body.length →
      body.length - raw < buf.length := by
    intro fl raw body hp hle
    cases ph with
    | readHeader =>
      cases h
      have := parseHdr_length hp
      have := hdrLen_bounds fl
      omega
    | readBody fl' raw' =>
      obtain ⟨h1, h2, -⟩ := h
      cases hp.symm.trans h1
      omega
  rw [h.decodeOne, codecDecodeOne_readHeader, decodeBuffer_eq]
  cases hp : parseHdr acc with
  | none => exact ⟨_, _, rfl, rfl⟩
  | some x =>
    obtain ⟨fl, raw, body⟩ := x
    dsimp only
    by_cases hraw : Gen.CODEC_MAX_FRAME_SIZE < raw
    · rw [if_pos ((exceeds_codecMax raw).mpr hraw), if_pos hraw]
      exact ⟨_, _, rfl⟩
    · rw [if_neg (mt (exceeds_codecMax raw).mp hraw), if_neg hraw, codecDecodeOne_readBody]
      by_cases hb : body.length < raw
      · rw [if_pos hb, if_pos hb]
        exact ⟨_, _, rfl, hp, Nat.zero_lt_of_lt hb, Nat.le_of_not_lt hraw⟩
      · rw [if_neg hb, if_neg hb]
        exact ⟨rfl, by rw [List.length_drop]; exact hlt fl raw body hp (Nat.le_of_not_lt hb)⟩

theorem codecDrain_eq_decodeAll (acc : List UInt8) : ∀ (ph : CodecPhase) (buf : List UInt8) (n : Nat),
    CodecRep ph buf acc → buf.length ≤ n →
    (codecDrain (n + 1) ph buf).1 = (decodeAll codecMax acc).1
    ∧ (codecDrain (n + 1) ph buf).2.1 = ((decodeAll codecMax acc).2.1 != .more)
    ∧ ((decodeAll codecMax acc).2.1 = .more →
        CodecRep (codecDrain (n + 1) ph buf).2.2.1 (codecDrain (n + 1) ph buf).2.2.2
          (decodeAll codecMax acc).2.2) := by
  -- case1..case4: `decodeBuffer` answers needMore, error, panic, frame
  fun_induction decodeAll codecMax acc with
  | case1 src h =>
    intro ph buf n hr _
    obtain ⟨ph', buf', hd, hr'⟩ := h ▸ codecDecodeOne_agrees hr
    rw [codecDrain, hd]
    exact ⟨rfl, rfl, fun _ => hr'⟩
  | case2 src h =>
    intro ph buf n hr _
    obtain ⟨ph', buf', hd⟩ := h ▸ codecDecodeOne_agrees hr
    rw [codecDrain, hd]
    exact ⟨rfl, rfl, nofun⟩
  | case3 src h => exact absurd h (decodeBuffer_ne_panic _ src)
  | case4 src f rest h r ih =>
    intro ph buf n hr hn
    obtain ⟨hd, hlt⟩ := h ▸ codecDecodeOne_agrees hr
    cases n with
    | zero => omega
    | succ n =>
      obtain ⟨ih1, ih2, ih3⟩ := ih .readHeader rest n rfl (Nat.le_of_lt_succ (Nat.lt_of_lt_of_le hlt hn))
      rw [codecDrain, hd]
      exact ⟨congrArg (f :: ·) ih1, ih2, ih3⟩

theorem codecFeedChunks_failed (s : CodecState) (h : s.failed = true) (chunks : List (List UInt8)) :
    codecFeedChunks s chunks = (s, []) := by
  induction chunks with
  | nil => rfl
  | cons c cs ih => simp only [codecFeedChunks, codecFeed, h, if_true, ih, List.append_nil]

theorem codecFeedChunks_eq_feedChunks (chunks : List (List UInt8)) : ∀ (cs : CodecState) (rs : RxState),
    cs.failed = rs.closed → (cs.failed = false → CodecRep cs.phase (cs.pfx ++ cs.buf) rs.acc) →
    (codecFeedChunks cs chunks).2 = (feedChunks codecMax rs chunks).2 := by
  induction chunks with
  | nil => intro cs rs _ _; rfl
  | cons c rest ih =>
    intro cs rs hfc hrep
    cases hf : cs.failed with
    | true => rw [codecFeedChunks_failed cs hf, feedChunks_closed _ rs (hfc ▸ hf)]
    | false =>
      obtain ⟨h1, h2, h3⟩ := codecDrain_eq_decodeAll _ _ _ _ ((hrep hf).append c) (Nat.le_refl _)
      simp only [codecFeedChunks, feedChunks, codecFeed, feed, hf, ← hfc, Bool.false_eq_true, if_false, h1]
      congr 1
      exact ih _ _ h2 (fun hnf => h3 (bne_eq_false_iff_eq.mp (h2.symm.trans hnf)))

/-- to the live decoder a primed prefix is bytes it holds already (`acc := pfx`) -/
theorem codecFeedChunks_frames (pfx : List UInt8) (chunks : List (List UInt8)) (hne : chunks ≠ []) :
    (codecFeedChunks { pfx := pfx } chunks).2 = (decodeAll codecMax (pfx ++ chunks.flatten)).1 := by
  rw [codecFeedChunks_eq_feedChunks chunks { pfx := pfx } { acc := pfx } rfl
      (fun _ => (List.append_nil pfx).symm),
    (feedChunks_spec codecMax chunks _ rfl hne).1]
  rfl

/-- with the bytes both such encoders use (1/0 short, 3/2 long, COMMAND = 4) the header is the codec's:
3 and 2 are 1 and 0 with the LONG bit -/
theorem hdrMoreStyle_eq (f : Frame) :
    hdrMoreStyle 255 1 0 3 2 4 f =
      header Gen.codecEncodeShortMax
        (flagBits f.more f.command Gen.ZMTP_FLAG_MORE Gen.ZMTP_FLAG_COMMAND) Gen.ZMTP_FLAG_LONG
        f.payload.length := by
  have hbits : ∀ m c : Bool, ((if m then (3 : UInt8) else 2) ||| (if c then 4 else 0)) =
      ((if m then (1 : UInt8) else 0) ||| (if c then 4 else 0)) ||| 2 := by
    decide
  simp only [hdrMoreStyle, header, flagBits, Gen.codecEncodeShortMax, Gen.ZMTP_FLAG_MORE,
    Gen.ZMTP_FLAG_COMMAND, Gen.ZMTP_FLAG_LONG, hbits]
  rfl

theorem vectHeader_eq (f : Frame) : vectHeader f ++ f.payload = encodeCodec f := by
  simp only [vectHeader, Gen.vectShortMax, Gen.vectShortMoreByte, Gen.vectShortLastByte,
    Gen.vectLongMoreByte, Gen.vectLongLastByte, Gen.vectCommandBit, hdrMoreStyle_eq, encodeCodec]

/-- the one or two chunks `frame_vectored` emits for a frame concatenate to its encoding -/
theorem vectChunks_flatten (f : Frame) :
    (if f.payload.isEmpty then [vectHeader f] else [vectHeader f, f.payload]).flatten = encodeCodec f := by
  rw [← vectHeader_eq]
  split
  · rename_i h
    rw [List.isEmpty_iff.mp h]
    rfl
  · simp only [List.flatten_cons, List.flatten_nil, List.append_nil]

end Rzmq
