import RzmqModel.Model.ReqRep
import RzmqModel.Proofs.Assoc
/-!
The REQ and REP state machines (C10): one inductive invariant each (`ReqInv`, `RepInv`), in two layers.
`Holder`: the state value a call claims under the lock (`sending`, `receiving`) belongs to exactly one task in flight;
it is what lets a commit or a roll-back know the state it finds.  Under it, what the commits do to the log: for REQ an
abstract system without tasks (`ReqAbs`, whose log has the shape `ReqShape`), for REP the run of an automaton.
Every predicate on logs (`sendsSeparated`, `alternates`, `alternatesLoose`, `repWellFormed`) is read as "an
`Option`-valued automaton accepts", `List.foldlM`, so that a commit, which appends to the log, is one more step of the
automaton (`foldlM_snoc`).
-/
namespace Rzmq

/-- Both sockets claim their state under the lock (`sending`, `receiving`) on behalf of the one task then in flight: `v`
is the pc of that task, `b` is "the state is the claimed one". -/
structure Holder {α : Type} (l : List (Nat × α)) (d v : α) (b : Bool) : Prop where
  iff : b = true ↔ ∃ t, pcOf l d t = v
  uniq : ∀ t t', pcOf l d t = v → pcOf l d t' = v → t = t'

section Holder
variable {α : Type} {l : List (Nat × α)} {d u v w : α} {b : Bool} {t : Nat}

theorem Holder.nil (hd : d ≠ v) : Holder [] d v false :=
  ⟨by simp [pcOf, hd], by simp [pcOf, hd]⟩

theorem Holder.keep (h : Holder l d v b) (h1 : pcOf l d t = u) (hu : u ≠ v) (hw : w ≠ v) :
    Holder (setL l t w) d v b := by
  have key : ∀ t', pcOf (setL l t w) d t' = v ↔ pcOf l d t' = v := by
    intro t'
    rw [pcOf_setL]
    split
    · next e => exact iff_of_false hw (e ▸ h1 ▸ hu)
    · rfl
  exact ⟨by simpa only [key] using h.iff, by simpa only [key] using h.uniq⟩

theorem Holder.release (h : Holder l d v b) (h1 : pcOf l d t = v) (hw : w ≠ v) :
    Holder (setL l t w) d v false := by
  have key : ∀ t', pcOf (setL l t w) d t' ≠ v := by
    intro t'
    rw [pcOf_setL]
    split
    · exact hw
    · next hne => exact fun hp => hne (h.uniq t' t hp h1)
  exact ⟨by simp [key], fun t' _ hp => absurd hp (key t')⟩

theorem Holder.acquire (h : Holder l d v false) : Holder (setL l t v) d v true := by
  have key : ∀ t', pcOf (setL l t v) d t' = v ↔ t' = t := by
    intro t'
    rw [pcOf_setL]
    split
    · next e => simp [e]
    · next hne => exact iff_of_false (fun hp => Bool.noConfusion (h.iff.2 ⟨t', hp⟩)) hne
  exact ⟨by simp [key], by simp [key]⟩

end Holder

theorem foldlM_snoc {σ α : Type} {f : σ → α → Option σ} {q q' : σ} {l : List α} (h : l.foldlM f q = some q')
    (a : α) : (l ++ [a]).foldlM f q = f q' a := by
  simp [h]

theorem eq_of_not_bne {α : Type} [BEq α] [LawfulBEq α] {a b : α} (h : ¬(a != b) = true) : a = b :=
  bne_eq_false_iff_eq.1 (Bool.eq_false_iff.2 h)

theorem ReqSys.pc_eq (s : ReqSys) (t : Nat) : s.pc t = pcOf s.pcs .idle t := rfl

theorem ReqSys.pc_setPc (s : ReqSys) (t t' : Nat) (v : ReqPc) :
    (s.setPc t v).pc t' = if t' = t then v else s.pc t' :=
  pcOf_setL ..

theorem ReqSys.pc_setPc_same (s : ReqSys) (t : Nat) (v : ReqPc) : (s.setPc t v).pc t = v := by
  simp [ReqSys.pc_setPc]

theorem ReqSys.pc_setPc_other (s : ReqSys) (t t' : Nat) (v : ReqPc) (h : t' ≠ t) :
    (s.setPc t v).pc t' = s.pc t' := by
  simp [ReqSys.pc_setPc, h]

@[simp] theorem ReqSys.setPc_claim (s : ReqSys) (t v) : (s.setPc t v).claim = s.claim := rfl
@[simp] theorem ReqSys.setPc_guard (s : ReqSys) (t v) : (s.setPc t v).exchangeGuard = s.exchangeGuard := rfl
@[simp] theorem ReqSys.setPc_sg (s : ReqSys) (t v) : (s.setPc t v).successGuarded = s.successGuarded := rfl
@[simp] theorem ReqSys.setPc_st (s : ReqSys) (t v) : (s.setPc t v).st = s.st := rfl
@[simp] theorem ReqSys.setPc_atPeer (s : ReqSys) (t v) : (s.setPc t v).atPeer = s.atPeer := rfl
@[simp] theorem ReqSys.setPc_replies (s : ReqSys) (t v) : (s.setPc t v).replies = s.replies := rfl
@[simp] theorem ReqSys.setPc_log (s : ReqSys) (t v) : (s.setPc t v).log = s.log := rfl
@[simp] theorem ReqSys.setPc_pcs (s : ReqSys) (t v) : (s.setPc t v).pcs = setL s.pcs t v := rfl

def ReqState.isExp : ReqState → Bool
  | .expectingReply _ => true
  | _ => false

@[simp] theorem ReqState.isExp_ready : ReqState.readyToSend.isExp = false := rfl
@[simp] theorem ReqState.isExp_sending : ReqState.sending.isExp = false := rfl
@[simp] theorem ReqState.isExp_exp (x : Nat) : (ReqState.expectingReply x).isExp = true := rfl

theorem ReqState.isExp_iff (st : ReqState) : st.isExp = true ↔ ∃ x, st = .expectingReply x := by
  cases st <;> simp [ReqState.isExp]

/-- the shape of (`st` expects a reply, `log`) pairs: an abstract system simulated by the REQ machine.  A reply is
received either for the open request or, late, for one that was given up before. -/
inductive ReqShape : Bool → List Op → Prop where
  | nil : ReqShape false []
  | send {l : List Op} : ReqShape false l → ReqShape true (l ++ [.send])
  | recv {b : Bool} {l : List Op} : ReqShape b l → (b = false → .abandoned ∈ l) → ReqShape false (l ++ [.recv])
  | abandoned {l : List Op} : ReqShape true l → ReqShape false (l ++ [.abandoned])

/-- The REQ machine with the tasks and their lock scopes left out: whether a reply is expected, the log, the requests
at the peer and the replies queued.  A commit or a peer event is one of the four moves below.  `quiet` stands for "no
event of the history gives an exchange up". -/
structure ReqAbs (quiet : Prop) (b : Bool) (log : List Op) (atPeer replies : Nat) : Prop where
  out : atPeer + replies ≤ log.count .abandoned + b.toNat
  bound : atPeer + replies + log.count .recv ≤ log.count .send
  shape : ReqShape b log
  kept : quiet → .abandoned ∉ log

section ReqAbs
variable {quiet : Prop} {b : Bool} {log : List Op} {a r a' r' : Nat}

theorem ReqAbs.send (h : ReqAbs quiet false log a r) : ReqAbs quiet true (log ++ [.send]) (a + 1) r where
  out := by
    have := h.out
    simp at this ⊢
    omega
  bound := by
    have := h.bound
    simp
    omega
  shape := h.shape.send
  kept hq := by simpa using h.kept hq

theorem ReqAbs.recv (h : ReqAbs quiet b log a r) (hr : r ≠ 0) : ReqAbs quiet false (log ++ [.recv]) a (r - 1) where
  out := by
    have := h.out
    have := b.toNat_le
    simp
    omega
  bound := by
    have := h.bound
    simp
    omega
  -- a reply is there although none is expected: it belongs to an exchange given up before
  shape := h.shape.recv fun hb => List.count_pos_iff.1 (by
    have := h.out
    simp [hb] at this
    omega)
  kept hq := by simpa using h.kept hq

theorem ReqAbs.abandon (h : ReqAbs quiet true log a r) (hq : ¬quiet) : ReqAbs quiet false (log ++ [.abandoned]) a r where
  out := by
    have := h.out
    simp at this ⊢
    omega
  bound := by
    have := h.bound
    simp
    omega
  shape := h.shape.abandoned
  kept hq' := absurd hq' hq

/-- the peer answers a request, or requests and replies are lost with the peer (`pipe_detached`) -/
theorem ReqAbs.mono (h : ReqAbs quiet b log a r) (hle : a' + r' ≤ a + r) : ReqAbs quiet b log a' r' :=
  { h with
    out := Nat.le_trans hle h.out
    bound := Nat.le_trans (Nat.add_le_add_right hle _) h.bound }

end ReqAbs

/-- the inductive invariant of the REQ machine (current code shape: `claim`, `exchangeGuard`, successful
receives not guarded) -/
structure ReqInv (quiet : Prop) (s : ReqSys) : Prop where
  claim : s.claim = true
  guard : s.exchangeGuard = true
  sg : s.successGuarded = false
  sif : Holder s.pcs .idle .sendInFlight (s.st == .sending)
  abs : ReqAbs quiet s.st.isExp s.log s.atPeer s.replies

theorem ReqInv.init {quiet : Prop} : ReqInv quiet {} :=
  ⟨rfl, rfl, rfl, .nil nofun, Nat.le_refl _, Nat.le_refl _, .nil, fun _ => List.not_mem_nil⟩

theorem ReqInv.step {quiet : Prop} {s : ReqSys} (h : ReqInv quiet s) (e : ReqEv)
    (he : quiet → e.abandons = false) : ReqInv quiet (s.step e) := by
  obtain ⟨claim, guard, sg, nx, st, pcs, atPeer, replies, log, rejected⟩ := s
  obtain ⟨rfl, rfl, rfl⟩ : claim = true ∧ guard = true ∧ sg = false := ⟨h.claim, h.guard, h.sg⟩
  -- the branches of `ReqSys.step` that change more than `rejected`, in source order: `sendBegin` accepted (2), `sendOk`
  -- (5), `sendFail` (7), `recvBegin` accepted (9), `recvGot` with a reply queued (12), `recvFail` of the open exchange
  -- (14) and of another (15: the unguarded shape; 16, 17), `recvDropped` (19), the peer replies (22), goes away (23, 24)
  -- `hpc` speaks of `s.pc t`, which is `pcOf s.pcs .idle t` by definition, as `setPc` is `setL`: `Holder`'s moves apply as they are
  fun_cases ReqSys.step _ e with
  | case2 t _ hst =>
    obtain rfl : st = .readyToSend := eq_of_beq hst
    exact { h with sif := h.sif.acquire }
  | case5 t hpc =>
    have hpc := eq_of_not_bne hpc
    obtain rfl : st = .sending := eq_of_beq (h.sif.iff.2 ⟨t, hpc⟩)
    exact { h with sif := h.sif.release hpc nofun, abs := h.abs.send }
  | case7 t hpc =>
    have hpc := eq_of_not_bne hpc
    obtain rfl : st = .sending := eq_of_beq (h.sif.iff.2 ⟨t, hpc⟩)
    exact { h with sif := h.sif.release hpc nofun }
  | case9 t hpc => exact { h with sif := h.sif.keep (eq_of_not_bne hpc) nofun nofun }
  | case12 t x hpc hrep =>
    have hr : replies ≠ 0 := mt beq_iff_eq.2 hrep
    -- whatever the state was, no reply is expected afterwards
    cases st <;> exact { h with sif := h.sif.keep hpc nofun nofun, abs := h.abs.recv hr }
  | case14 t x hpc y hst =>
    obtain rfl : st = .expectingReply y := hst
    exact { h with sif := h.sif.keep hpc nofun nofun, abs := h.abs.abandon fun hq => nomatch he hq }
  | case15 => contradiction
  | case16 t x hpc | case17 t x hpc | case19 t x hpc => exact { h with sif := h.sif.keep hpc nofun nofun }
  | case22 hz =>
    have hle : atPeer - 1 + (replies + 1) ≤ atPeer + replies := by
      have : atPeer ≠ 0 := mt beq_iff_eq.2 hz
      omega
    exact { h with abs := h.abs.mono hle }
  | case23 x hst =>
    obtain rfl : st = .expectingReply x := hst
    exact { h with sif := h.sif, abs := (h.abs.abandon fun hq => nomatch he hq).mono (Nat.zero_le _) }
  | case24 => exact { h with abs := h.abs.mono (Nat.zero_le _) }
  | _ => exact { h with }

theorem ReqInv.run {quiet : Prop} {s : ReqSys} (h : ReqInv quiet s) (evs : List ReqEv)
    (he : quiet → ∀ e ∈ evs, e.abandons = false) : ReqInv quiet (s.run evs) :=
  List.foldlRecOn (motive := ReqInv quiet) evs ReqSys.step h fun _ hs e hm => hs.step e (he · e hm)

theorem ReqInv.reach (evs : List ReqEv) :
    ReqInv (∀ e ∈ evs, e.abandons = false) (ReqSys.run {} evs) :=
  ReqInv.init.run evs id

/-- `sendsSeparated` as an automaton on its flag -/
def sepStep : Bool → Op → Option Bool
  | true, .send => none
  | false, .send => some true
  | _, _ => some false

theorem sendsSeparated_eq_foldlM (b : Bool) (l : List Op) :
    sendsSeparated b l = (l.foldlM sepStep b).isSome := by
  induction l generalizing b with
  | nil => rfl
  | cons a l ih => cases b <;> cases a <;> simp [sendsSeparated, sepStep, ih]

/-- `alternates` as an automaton on the operation it expects next -/
def altStep : Op → Op → Option Op
  | .send, .send => some .recv
  | .recv, .recv => some .send
  | .recv, .abandoned => some .send
  | _, _ => none

theorem alternates_eq_foldlM (x : Op) (l : List Op) : alternates x l = (l.foldlM altStep x).isSome := by
  induction l generalizing x with
  | nil => simp [alternates]
  | cons a l ih => cases x <;> cases a <;> simp [alternates, altStep, ih]

theorem ReqShape.sep {b : Bool} {l : List Op} (h : ReqShape b l) : l.foldlM sepStep false = some b := by
  induction h with
  | nil => rfl
  | send _ ih => exact foldlM_snoc ih _
  | @recv b _ _ _ ih => exact (foldlM_snoc ih _).trans (by cases b <;> rfl)
  | abandoned _ ih => exact foldlM_snoc ih _

theorem ReqShape.getLast {b : Bool} {l : List Op} (h : ReqShape b l) :
    b = true ↔ l.getLast? = some .send := by
  cases h <;> simp

theorem ReqShape.strict {b : Bool} {l : List Op} (h : ReqShape b l) (hl : .abandoned ∉ l) :
    l.foldlM altStep .send = some (if b then .recv else .send) := by
  induction h with
  | nil => rfl
  | send _ ih => exact foldlM_snoc (ih fun hm => hl (List.mem_append_left _ hm)) _
  | @recv b _ _ hb ih =>
    have hl' : Op.abandoned ∉ _ := fun hm => hl (List.mem_append_left _ hm)
    cases b with
    | true => exact foldlM_snoc (ih hl') _
    | false => exact absurd (hb rfl) hl'
  | abandoned _ ih => simp at hl

/-- states of the loose alternation automaton -/
inductive LooseSt where
  | start          -- nothing logged yet
  | afterSend      -- last op was `send`
  | mixed          -- a `send`, then one or more `recv`, no `abandoned` since that send
  | done           -- the last exchange was abandoned (possibly followed by late `recv`s)
deriving DecidableEq, Repr

/-- loose alternation: the first op is `send`; a `send` never directly follows a `send` (there is a `recv` or an
`abandoned` in between); at most one `abandoned` per `send`; further `recv`s (replies of abandoned exchanges
delivered late) may appear anywhere after the first `send`. -/
def looseStep : LooseSt → Op → Option LooseSt
  | .start, .send => some .afterSend
  | .start, _ => none
  | .afterSend, .send => none
  | .afterSend, .recv => some .mixed
  | .afterSend, .abandoned => some .done
  | .mixed, .send => some .afterSend
  | .mixed, .recv => some .mixed
  | .mixed, .abandoned => some .done
  | .done, .send => some .afterSend
  | .done, .recv => some .done
  | .done, .abandoned => none

def looseRun : LooseSt → List Op → Option LooseSt
  | q, [] => some q
  | q, op :: rest => (looseStep q op).bind (fun q' => looseRun q' rest)

def alternatesLoose (l : List Op) : Bool := (looseRun .start l).isSome

theorem looseRun_eq_foldlM (q : LooseSt) (l : List Op) : looseRun q l = l.foldlM looseStep q := by
  induction l generalizing q with
  | nil => rfl
  | cons a l ih =>
    simp only [looseRun, ih]
    rfl

/-- the operation strict alternation expects next in a state of the loose automaton -/
def LooseSt.next : LooseSt → Op
  | .afterSend => .recv
  | _ => .send

theorem looseRun_of_alternates (l : List Op) :
    ∀ q : LooseSt, alternates q.next l = true → (looseRun q l).isSome = true := by
  induction l with
  | nil => exact fun _ _ => rfl
  | cons a l ih =>
    intro q h
    -- either `looseStep` accepts `a` and both automata move on, or `alternates` refuses it and `h` is `false = true`
    cases q <;> cases a <;> first | exact ih _ h | exact Bool.noConfusion h

theorem alternatesLoose_of_alternates (l : List Op) (h : alternates .send l = true) :
    alternatesLoose l = true :=
  looseRun_of_alternates l .start h

theorem head_send_of_alternatesLoose (a : Op) (l : List Op) (h : alternatesLoose (a :: l) = true) :
    a = .send := by
  cases a <;> simp [alternatesLoose, looseRun, looseStep] at h ⊢

theorem ReqShape.loose {b : Bool} {l : List Op} (h : ReqShape b l) :
    ∃ q, l.foldlM looseStep .start = some q ∧ b = (q == .afterSend) ∧ (q = .start → l = []) := by
  induction h with
  | nil => exact ⟨.start, rfl, rfl, fun _ => rfl⟩
  | send _ ih =>
    obtain ⟨q, h1, h2, _⟩ := ih
    cases q with
    | afterSend => exact absurd h2 (by decide)
    | _ => exact ⟨.afterSend, foldlM_snoc h1 _, rfl, nofun⟩
  | recv _ hb ih =>
    obtain ⟨q, h1, h2, h3⟩ := ih
    cases q with
    | start => exact absurd (h3 rfl ▸ hb h2) List.not_mem_nil
    | done => exact ⟨.done, foldlM_snoc h1 _, rfl, nofun⟩
    | _ => exact ⟨.mixed, foldlM_snoc h1 _, rfl, nofun⟩
  | abandoned _ ih =>
    obtain ⟨q, h1, h2, _⟩ := ih
    obtain rfl : q = .afterSend := eq_of_beq h2.symm
    exact ⟨.done, foldlM_snoc h1 _, rfl, nofun⟩

/-- beyond `C10.req_no_double_send`: the log starts with `send` and an exchange is given up at most once -/
theorem req_alternates_fixed (evs : List ReqEv) : alternatesLoose (ReqSys.run {} evs).log = true := by
  obtain ⟨q, h, _⟩ := (ReqInv.reach evs).abs.shape.loose
  rw [alternatesLoose, looseRun_eq_foldlM, h]
  rfl

theorem RepSys.pc_eq (s : RepSys) (t : Nat) : s.pc t = pcOf s.pcs .idle t := rfl

theorem RepSys.pc_setPc (s : RepSys) (t t' : Nat) (v : RepPc) :
    (s.setPc t v).pc t' = if t' = t then v else s.pc t' :=
  pcOf_setL ..

theorem RepSys.pc_setPc_same (s : RepSys) (t : Nat) (v : RepPc) : (s.setPc t v).pc t = v := by
  simp [RepSys.pc_setPc]

theorem RepSys.pc_setPc_other (s : RepSys) (t t' : Nat) (v : RepPc) (h : t' ≠ t) :
    (s.setPc t v).pc t' = s.pc t' := by
  simp [RepSys.pc_setPc, h]

@[simp] theorem RepSys.setPc_claim (s : RepSys) (t v) : (s.setPc t v).claim = s.claim := rfl
@[simp] theorem RepSys.setPc_st (s : RepSys) (t v) : (s.setPc t v).st = s.st := rfl
@[simp] theorem RepSys.setPc_pending (s : RepSys) (t v) : (s.setPc t v).pending = s.pending := rfl
@[simp] theorem RepSys.setPc_log (s : RepSys) (t v) : (s.setPc t v).log = s.log := rfl

/-- `repWellFormed` as an automaton on the peer whose request is open (`none`: between exchanges) -/
def repStep : Option Nat → RepOp → Option (Option Nat)
  | none, .recv s => some (some s)
  | some s, .send d => if s = d then some none else none
  | some s, .abandoned d => if s = d then some none else none
  | _, _ => none

theorem repWellFormed_eq_foldlM : ∀ l : List RepOp, repWellFormed l = (l.foldlM repStep none).isSome
  | [] => rfl
  | [.recv _] => rfl
  | .recv s :: .send d :: rest => by
    rw [repWellFormed, repWellFormed_eq_foldlM rest]
    show _ = ((if s = d then some none else none).bind (rest.foldlM repStep)).isSome
    split <;> simp [*]
  | .recv s :: .abandoned d :: rest => by
    rw [repWellFormed, repWellFormed_eq_foldlM rest]
    show _ = ((if s = d then some none else none).bind (rest.foldlM repStep)).isSome
    split <;> simp [*]
  | .recv _ :: .recv _ :: _ => rfl
  | .send _ :: _ => rfl
  | .abandoned _ :: _ => rfl

def RepState.openPeer : RepState → Option Nat
  | .receivedRequest p => some p
  | _ => none

/-- the inductive invariant of the REP machine (current code shape, `claim = true`) -/
structure RepInv (s : RepSys) : Prop where
  claim : s.claim = true
  log : s.log.foldlM repStep none = some s.st.openPeer
  rif : Holder s.pcs .idle .recvInFlight (s.st == .receiving)

theorem RepInv.init : RepInv {} :=
  ⟨rfl, rfl, .nil nofun⟩

theorem RepInv.step {s : RepSys} (h : RepInv s) (e : RepEv) : RepInv (s.step e) := by
  obtain ⟨claim, st, pcs, pending, log, rejected⟩ := s
  obtain rfl : claim = true := h.claim
  have hlog : log.foldlM repStep none = some st.openPeer := h.log
  -- the branches of `RepSys.step` that change more than `rejected` and `pending`: `recvBegin` accepted (2), `recvGot`
  -- with a request queued (6), `recvGiveUp` (8), `sendReply` accepted (9), the peer goes away (12)
  fun_cases RepSys.step _ e with
  | case2 t _ hst =>
    obtain rfl : st = .readyToReceive := eq_of_beq hst
    exact { h with rif := h.rif.acquire }
  | case6 t i hpc src =>
    have hpc := eq_of_not_bne hpc
    obtain rfl : st = .receiving := eq_of_beq (h.rif.iff.2 ⟨t, hpc⟩)
    exact { h with log := foldlM_snoc hlog _, rif := h.rif.release hpc nofun }
  | case8 t hpc =>
    have hpc := eq_of_not_bne hpc
    obtain rfl : st = .receiving := eq_of_beq (h.rif.iff.2 ⟨t, hpc⟩)
    exact { h with rif := h.rif.release hpc nofun }
  | case9 t peer hst =>
    obtain rfl : st = .receivedRequest peer := hst
    exact { h with log := (foldlM_snoc hlog _).trans (if_pos rfl), rif := h.rif }
  | case12 peer =>
    split
    · next hst =>
      obtain rfl : st = .receivedRequest peer := eq_of_beq hst
      exact { h with log := (foldlM_snoc hlog _).trans (if_pos rfl), rif := h.rif }
    · exact { h with }
  | _ => exact { h with }

theorem RepInv.run {s : RepSys} (h : RepInv s) (evs : List RepEv) : RepInv (s.run evs) :=
  List.foldlRecOn (motive := RepInv) evs RepSys.step h fun _ hs e _ => hs.step e

theorem RepInv.reach (evs : List RepEv) : RepInv (RepSys.run {} evs) :=
  RepInv.init.run evs

end Rzmq
