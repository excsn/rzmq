import RzmqModel.Model.Pair
import RzmqModel.Proofs.EngineRun
/-!
The pair system (C05) as a Kahn network.

What an endpoint emits and reports is a prefix-monotone function of the bytes it has received (`emitted_mono'`,
`appOf_mono`).  Hence whatever has been delivered under any schedule is part of every complete exchange, i.e. of every
fixpoint of the two response functions (`Forced`, kept by `PairInv.move`); a schedule that delivers everything has
delivered such a fixpoint (`PairInv.exchange`), hence the least one, and all such schedules end alike
(`Forced.outcome`).  A handshake scenario is therefore settled by computing one exchange of responses (`Resp`, one
lemma per transcript in the second half of the file) and checking that every complete exchange contains it:
`complete_of_exchange`, and `settled_of_exchange` for schedules with end-of-stream.
-/
namespace Rzmq

theorem sendsOf_append (a b : Out) : sendsOf (a ++ b) = sendsOf a ++ sendsOf b := by
  simp [sendsOf, Out.append_def]

@[simp] theorem sendsOf_empty : sendsOf ({} : Out) = [] := rfl

@[simp] theorem Out.app_nil_pair : ({} : Out).app = [] := rfl

/-- state reached from `Eng.init` after receiving `x` (in one read; by cut independence: in any reads) -/
def stOf (spec : AbsSpec) (cfg : Cfg) (x : Bytes) : Eng := (onNetworkBytes spec cfg 0 Eng.init x).1

/-- application actions produced while receiving `x` -/
def appOf (spec : AbsSpec) (cfg : Cfg) (x : Bytes) : List AppAct := (onNetworkBytes spec cfg 0 Eng.init x).2.app

section Generic
variable {spec : AbsSpec} {cfg : Cfg}

theorem stOf_append (hw : WellBehaved spec) (x y : Bytes) :
    stOf spec cfg (x ++ y) = (onNetworkBytes spec cfg 0 (stOf spec cfg x) y).1 := by
  simp only [stOf, onNetworkBytes_append hw]

theorem emitted_append (hw : WellBehaved spec) (x y : Bytes) :
    emitted spec cfg (x ++ y) = emitted spec cfg x ++ sendsOf (onNetworkBytes spec cfg 0 (stOf spec cfg x) y).2 := by
  simp only [emitted, stOf, onNetworkBytes_append hw, sendsOf_append, List.append_assoc]

theorem appOf_append (hw : WellBehaved spec) (x y : Bytes) :
    appOf spec cfg (x ++ y) = appOf spec cfg x ++ (onNetworkBytes spec cfg 0 (stOf spec cfg x) y).2.app := by
  simp only [appOf, stOf, onNetworkBytes_append hw, Out.app_append]

theorem sig_prefix_emitted (x : Bytes) : Gen.SIGNATURE <+: emitted spec cfg x :=
  List.prefix_append _ _

theorem emitted_mono' (hw : WellBehaved spec) {x z : Bytes} (h : x <+: z) :
    emitted spec cfg x <+: emitted spec cfg z := by
  obtain ⟨y, rfl⟩ := h
  rw [emitted_append hw]
  exact List.prefix_append _ _

theorem appOf_mono (hw : WellBehaved spec) {x z : Bytes} (h : x <+: z) :
    appOf spec cfg x <+: appOf spec cfg z := by
  obtain ⟨y, rfl⟩ := h
  rw [appOf_append hw]
  exact List.prefix_append _ _

theorem stOf_closed_append (hw : WellBehaved spec) {x : Bytes} (h : (stOf spec cfg x).phase = .closed) (y : Bytes) :
    (stOf spec cfg (x ++ y)).phase = .closed := by
  rw [stOf_append hw, onNetworkBytes_closed h]
  exact h

theorem emitted_closed_append (hw : WellBehaved spec) {x : Bytes} (h : (stOf spec cfg x).phase = .closed)
    (y : Bytes) : emitted spec cfg (x ++ y) = emitted spec cfg x := by
  rw [emitted_append hw, onNetworkBytes_closed h]
  simp

theorem appOf_closed_append (hw : WellBehaved spec) {x : Bytes} (h : (stOf spec cfg x).phase = .closed)
    (y : Bytes) : appOf spec cfg (x ++ y) = appOf spec cfg x := by
  rw [appOf_append hw, onNetworkBytes_closed h]
  simp

/-- the response of an endpoint to `x`, received from the start: its state, what it reported, all it emitted -/
structure Resp (spec : AbsSpec) (cfg : Cfg) (x : Bytes) (s : Eng) (app : List AppAct) (out : Bytes) : Prop where
  st : stOf spec cfg x = s
  app : appOf spec cfg x = app
  out : emitted spec cfg x = out

theorem Resp.nil : Resp spec cfg [] Eng.init [] Gen.SIGNATURE := ⟨rfl, rfl, rfl⟩

theorem Resp.read (hw : WellBehaved spec) {x out : Bytes} {s : Eng} {app : List AppAct}
    (h : Resp spec cfg x s app out) (d : Bytes) :
    Resp spec cfg (x ++ d) (onNetworkBytes spec cfg 0 s d).1 (app ++ (onNetworkBytes spec cfg 0 s d).2.app)
      (out ++ sendsOf (onNetworkBytes spec cfg 0 s d).2) := by
  obtain ⟨rfl, rfl, rfl⟩ := h
  exact ⟨stOf_append hw x d, appOf_append hw x d, emitted_append hw x d⟩

theorem Resp.unique {x out out' : Bytes} {s s' : Eng} {app app' : List AppAct}
    (h : Resp spec cfg x s app out) (h' : Resp spec cfg x s' app' out') : s = s' ∧ app = app' ∧ out = out' :=
  ⟨h.st.symm.trans h'.st, h.app.symm.trans h'.app, h.out.symm.trans h'.out⟩

theorem Resp.read_step (hw : WellBehaved spec) {x out d : Bytes} {s s1 : Eng} {app : List AppAct} {o1 : Out}
    (h : Resp spec cfg x s app out)
    (h1 : step spec cfg 0 (addAcc s d) = some (s1, o1)) (h2 : step spec cfg 0 s1 = none) :
    Resp spec cfg (x ++ d) s1 (app ++ o1.app) (out ++ sendsOf o1) := by
  have hr : onNetworkBytes spec cfg 0 s d = (s1, o1) := by
    rw [onNetworkBytes_eq hw, runQ_some hw h1, runQ_none h2, Out.append_empty]
  have := h.read hw d
  rwa [hr] at this

end Generic

/-- An endpoint whose engine is `e`, to which `recv` has been delivered, which has reported `app` and emitted `sent`:
these are its responses to a prefix `r` of `recv` — to all of it, unless an end-of-stream closed the engine, which
happens only in schedules where `eof` holds. -/
def Tracks (spec : AbsSpec) (cfg : Cfg) (eof : Prop) (e : Eng) (app : List AppAct) (sent recv : Bytes) : Prop :=
  ∃ r, r <+: recv ∧ sent = emitted spec cfg r ∧ app = appOf spec cfg r ∧
    ((r = recv ∧ e = stOf spec cfg r) ∨ (eof ∧ e.phase = .closed))

section Tracks
variable {spec : AbsSpec} {cfg : Cfg} {eof : Prop} {e : Eng} {app : List AppAct} {sent recv : Bytes}

theorem Tracks.init : Tracks spec cfg eof Eng.init [] Gen.SIGNATURE [] :=
  ⟨[], List.prefix_rfl, rfl, rfl, .inl ⟨rfl, rfl⟩⟩

theorem Tracks.deliver (hw : WellBehaved spec) (h : Tracks spec cfg eof e app sent recv) (d : Bytes) :
    Tracks spec cfg eof (onNetworkBytes spec cfg 0 e d).1 (app ++ (onNetworkBytes spec cfg 0 e d).2.app)
      (sent ++ sendsOf (onNetworkBytes spec cfg 0 e d).2) (recv ++ d) := by
  obtain ⟨r, hp, rfl, rfl, ⟨rfl, rfl⟩ | ⟨he, hc⟩⟩ := h
  · exact ⟨r ++ d, List.prefix_rfl, (emitted_append hw r d).symm, (appOf_append hw r d).symm,
      .inl ⟨rfl, (stOf_append hw r d).symm⟩⟩
  · rw [onNetworkBytes_closed hc]
    exact ⟨r, hp.trans (List.prefix_append _ _), by simp, by simp, .inr ⟨he, hc⟩⟩

theorem Tracks.close (he : eof) (h : Tracks spec cfg eof e app sent recv) :
    Tracks spec cfg eof { e with phase := .closed } app sent recv := by
  obtain ⟨r, hp, hs, ha, -⟩ := h
  exact ⟨r, hp, hs, ha, .inr ⟨he, rfl⟩⟩

theorem Tracks.le (hw : WellBehaved spec) (h : Tracks spec cfg eof e app sent recv) {F : Bytes} (hF : recv <+: F) :
    sent <+: emitted spec cfg F ∧ app <+: appOf spec cfg F := by
  obtain ⟨r, hp, rfl, rfl, -⟩ := h
  exact ⟨emitted_mono' hw (hp.trans hF), appOf_mono hw (hp.trans hF)⟩

theorem Tracks.resp_or_closed (h : Tracks spec cfg eof e app sent recv) :
    Resp spec cfg recv e app sent ∨ (eof ∧ e.phase = .closed) := by
  obtain ⟨r, -, rfl, rfl, ⟨rfl, rfl⟩ | hc⟩ := h
  · exact .inl ⟨rfl, rfl, rfl⟩
  · exact .inr hc

theorem Tracks.resp (h : Tracks spec cfg False e app sent recv) : Resp spec cfg recv e app sent :=
  h.resp_or_closed.resolve_right (·.1)

end Tracks

/-- a complete exchange: A has received all that B emits on receiving `y`, and conversely -/
def Complete (spec : AbsSpec) (cfgA cfgB : Cfg) (x y : Bytes) : Prop :=
  x = emitted spec cfgB y ∧ y = emitted spec cfgA x

/-- `u` (towards A) and `v` (towards B) are part of every complete exchange -/
def Forced (spec : AbsSpec) (cfgA cfgB : Cfg) (u v : Bytes) : Prop :=
  ∀ x y, Complete spec cfgA cfgB x y → u <+: x ∧ v <+: y

section Forced
variable {spec : AbsSpec} {cfgA cfgB : Cfg} {u v u' v' : Bytes}

/-- responses to each other's output are a complete exchange -/
theorem Complete.of_resp {a b : Eng} {appA appB : List AppAct} (yA : Resp spec cfgA u a appA v)
    (yB : Resp spec cfgB v b appB u) : Complete spec cfgA cfgB u v :=
  ⟨yB.out.symm, yA.out.symm⟩

theorem Forced.nil : Forced spec cfgA cfgB [] [] := fun _ _ _ => ⟨List.nil_prefix, List.nil_prefix⟩

theorem Forced.mono (h : Forced spec cfgA cfgB u v) (hu : u' <+: u) (hv : v' <+: v) : Forced spec cfgA cfgB u' v' :=
  fun x y hc => ⟨hu.trans (h x y hc).1, hv.trans (h x y hc).2⟩

/-- Kleene iteration: the responses to what is forced are forced -/
theorem Forced.resp (hw : WellBehaved spec) (h : Forced spec cfgA cfgB u v) :
    Forced spec cfgA cfgB (emitted spec cfgB v) (emitted spec cfgA u) := by
  intro x y hc
  obtain ⟨hu, hv⟩ := h x y hc
  constructor
  · rw [hc.1]
    exact emitted_mono' hw hv
  · rw [hc.2]
    exact emitted_mono' hw hu

/-- one round of the iteration, with the two responses computed -/
theorem Forced.round (hw : WellBehaved spec) (h : Forced spec cfgA cfgB u v)
    (hA : emitted spec cfgA u = v') (hB : emitted spec cfgB v = u') : Forced spec cfgA cfgB u' v' :=
  hA ▸ hB ▸ h.resp hw

theorem Forced.unique (h : Forced spec cfgA cfgB u v) (h' : Forced spec cfgA cfgB u' v')
    (hc : Complete spec cfgA cfgB u v) (hc' : Complete spec cfgA cfgB u' v') : u = u' ∧ v = v' :=
  ⟨(h u' v' hc').1.eq_of_length_le (h' u v hc).1.length_le, (h u' v' hc').2.eq_of_length_le (h' u v hc).2.length_le⟩

theorem Forced.outcome {a b sA sB : Eng} {appA appB appA' appB' : List AppAct}
    (h : Forced spec cfgA cfgB u v) (yA : Resp spec cfgA u a appA v) (yB : Resp spec cfgB v b appB u)
    (h' : Forced spec cfgA cfgB u' v') (xA : Resp spec cfgA u' sA appA' v') (xB : Resp spec cfgB v' sB appB' u') :
    a = sA ∧ b = sB ∧ appA = appA' ∧ appB = appB' := by
  obtain ⟨rfl, rfl⟩ := h.unique h' (.of_resp yA yB) (.of_resp xA xB)
  exact ⟨(yA.unique xA).1, (yB.unique xB).1, (yA.unique xA).2.1, (yB.unique xB).2.1⟩

end Forced

section PairInv
variable {spec : AbsSpec} {cfgA cfgB : Cfg} {eof : Prop}

theorem Pair.move_ab_nil {p : Pair} (n : Nat) (h : p.ab = []) : p.move spec cfgA cfgB (.ab n) = p := by
  simp [Pair.move, h]

theorem Pair.move_ba_nil {p : Pair} (n : Nat) (h : p.ba = []) : p.move spec cfgA cfgB (.ba n) = p := by
  simp [Pair.move, h]

theorem Pair.move_ab_cons {p : Pair} (n : Nat) (h : p.ab ≠ []) :
    p.move spec cfgA cfgB (.ab n) =
      { p with b := (onNetworkBytes spec cfgB 0 p.b (p.ab.take (min (n + 1) p.ab.length))).1,
               ab := p.ab.drop (min (n + 1) p.ab.length),
               ba := p.ba ++ sendsOf (onNetworkBytes spec cfgB 0 p.b (p.ab.take (min (n + 1) p.ab.length))).2,
               appB := p.appB ++ (onNetworkBytes spec cfgB 0 p.b (p.ab.take (min (n + 1) p.ab.length))).2.app,
               recvB := p.recvB ++ p.ab.take (min (n + 1) p.ab.length) } := by
  simp [Pair.move, h]

theorem Pair.move_ba_cons {p : Pair} (n : Nat) (h : p.ba ≠ []) :
    p.move spec cfgA cfgB (.ba n) =
      { p with a := (onNetworkBytes spec cfgA 0 p.a (p.ba.take (min (n + 1) p.ba.length))).1,
               ba := p.ba.drop (min (n + 1) p.ba.length),
               ab := p.ab ++ sendsOf (onNetworkBytes spec cfgA 0 p.a (p.ba.take (min (n + 1) p.ba.length))).2,
               appA := p.appA ++ (onNetworkBytes spec cfgA 0 p.a (p.ba.take (min (n + 1) p.ba.length))).2.app,
               recvA := p.recvA ++ p.ba.take (min (n + 1) p.ba.length) } := by
  simp [Pair.move, h]

/-- Both endpoints track what has been delivered to them: each has emitted what the other has received plus what is
in flight; and what has been delivered is part of every complete exchange. -/
structure PairInv (spec : AbsSpec) (cfgA cfgB : Cfg) (eof : Prop) (p : Pair) : Prop where
  A : Tracks spec cfgA eof p.a p.appA (p.recvB ++ p.ab) p.recvA
  B : Tracks spec cfgB eof p.b p.appB (p.recvA ++ p.ba) p.recvB
  forced : Forced spec cfgA cfgB p.recvA p.recvB

theorem PairInv.move (hw : WellBehaved spec) {p : Pair} (h : PairInv spec cfgA cfgB eof p)
    (m : Move) (he : m = .eofA ∨ m = .eofB → eof) : PairInv spec cfgA cfgB eof (p.move spec cfgA cfgB m) := by
  have hu : p.recvA <+: emitted spec cfgB p.recvB := (List.prefix_append _ _).trans (h.B.le hw List.prefix_rfl).1
  have hv : p.recvB <+: emitted spec cfgA p.recvA := (List.prefix_append _ _).trans (h.A.le hw List.prefix_rfl).1
  cases m with
  | ab n =>
    by_cases hab : p.ab = []
    · rw [Pair.move_ab_nil n hab]
      exact h
    · have hB := h.B.deliver hw (p.ab.take (min (n + 1) p.ab.length))
      have hA := h.A
      rw [← List.take_append_drop (min (n + 1) p.ab.length) p.ab, ← List.append_assoc] at hA
      rw [List.append_assoc] at hB
      rw [Pair.move_ab_cons n hab]
      exact ⟨hA, hB, (h.forced.resp hw).mono hu ((List.prefix_append _ _).trans (hA.le hw List.prefix_rfl).1)⟩
  | ba n =>
    by_cases hba : p.ba = []
    · rw [Pair.move_ba_nil n hba]
      exact h
    · have hA := h.A.deliver hw (p.ba.take (min (n + 1) p.ba.length))
      have hB := h.B
      rw [← List.take_append_drop (min (n + 1) p.ba.length) p.ba, ← List.append_assoc] at hB
      rw [List.append_assoc] at hA
      rw [Pair.move_ba_cons n hba]
      exact ⟨hA, hB, (h.forced.resp hw).mono ((List.prefix_append _ _).trans (hB.le hw List.prefix_rfl).1) hv⟩
  | eofA =>
    simp only [Pair.move]
    split
    · exact ⟨h.A.close (he (.inl rfl)), h.B, h.forced⟩
    · exact h
  | eofB =>
    simp only [Pair.move]
    split
    · exact ⟨h.A, h.B.close (he (.inr rfl)), h.forced⟩
    · exact h

theorem Pair.run_eq_foldl (spec : AbsSpec) (cfgA cfgB : Cfg) (p : Pair) (s : List Move) :
    Pair.run spec cfgA cfgB p s = s.foldl (Pair.move spec cfgA cfgB) p := by
  induction s generalizing p with
  | nil => rfl
  | cons m ms ih => exact ih _

theorem PairInv.of_start (hw : WellBehaved spec) (cfgA cfgB : Cfg) (s : List Move)
    (he : ∀ m ∈ s, m = .eofA ∨ m = .eofB → eof) :
    PairInv spec cfgA cfgB eof (Pair.run spec cfgA cfgB Pair.start s) := by
  rw [Pair.run_eq_foldl]
  exact List.foldlRecOn s _ ⟨Tracks.init, Tracks.init, Forced.nil⟩ fun p h m hm => h.move hw m (he m hm)

theorem PairInv.of_eof_free (hw : WellBehaved spec) (cfgA cfgB : Cfg) (s : List Move)
    (hne : ∀ m ∈ s, m ≠ .eofA ∧ m ≠ .eofB) :
    PairInv spec cfgA cfgB False (Pair.run spec cfgA cfgB Pair.start s) :=
  PairInv.of_start hw cfgA cfgB s fun m hm he => he.elim (hne m hm).1 (hne m hm).2

variable {p : Pair} {FA FB : Bytes} {sA sB : Eng} {appA appB : List AppAct}

theorem PairInv.exchange (h : PairInv spec cfgA cfgB False p) (hq : p.ab = [] ∧ p.ba = []) :
    Resp spec cfgA p.recvA p.a p.appA p.recvB ∧ Resp spec cfgB p.recvB p.b p.appB p.recvA := by
  have xA := h.A.resp
  have xB := h.B.resp
  rw [hq.1, List.append_nil] at xA
  rw [hq.2, List.append_nil] at xB
  exact ⟨xA, xB⟩

/-- what has been reported under any schedule is part of what a complete exchange reports -/
theorem PairInv.app_le {eof : Prop} (hw : WellBehaved spec) (h : PairInv spec cfgA cfgB eof p)
    (xA : Resp spec cfgA FB sA appA FA) (xB : Resp spec cfgB FA sB appB FB) : p.appA <+: appA ∧ p.appB <+: appB := by
  obtain ⟨lA, lB⟩ := h.forced FB FA (.of_resp xA xB)
  exact ⟨xA.app ▸ (h.A.le hw lA).2, xB.app ▸ (h.B.le hw lB).2⟩

theorem complete_of_exchange (hw : WellBehaved spec) (s : List Move) (hne : ∀ m ∈ s, m ≠ .eofA ∧ m ≠ .eofB)
    (hq : (Pair.run spec cfgA cfgB Pair.start s).ab = [] ∧ (Pair.run spec cfgA cfgB Pair.start s).ba = [])
    (hF : Forced spec cfgA cfgB FB FA) (xA : Resp spec cfgA FB sA appA FA) (xB : Resp spec cfgB FA sB appB FB) :
    (Pair.run spec cfgA cfgB Pair.start s).a = sA ∧ (Pair.run spec cfgA cfgB Pair.start s).b = sB
    ∧ (Pair.run spec cfgA cfgB Pair.start s).appA = appA ∧ (Pair.run spec cfgA cfgB Pair.start s).appB = appB := by
  have h := PairInv.of_eof_free hw cfgA cfgB s hne
  exact h.forced.outcome (h.exchange hq).1 (h.exchange hq).2 hF xA xB

def NoHC (l : List AppAct) : Prop := ∀ x ∈ l, isHandshakeComplete x = false

theorem NoHC.of_prefix {l m : List AppAct} (h : l <+: m) (hm : NoHC m) : NoHC l :=
  fun x hx => hm x (h.subset hx)

theorem noHC_peerError (e : ErrClass) : NoHC [.peerError e] := by
  simp [NoHC, isHandshakeComplete]

theorem settled_of_exchange (hw : WellBehaved spec) (s : List Move)
    (hq : (Pair.run spec cfgA cfgB Pair.start s).Settled)
    (hF : Forced spec cfgA cfgB FB FA) (xA : Resp spec cfgA FB sA appA FA) (xB : Resp spec cfgB FA sB appB FB)
    (hnA : NoHC appA) (hnB : NoHC appB) (hcl : sA.phase = .closed ∨ sB.phase = .closed) :
    (Pair.run spec cfgA cfgB Pair.start s).a.phase = .closed ∧ (Pair.run spec cfgA cfgB Pair.start s).b.phase = .closed
    ∧ NoHC (Pair.run spec cfgA cfgB Pair.start s).appA ∧ NoHC (Pair.run spec cfgA cfgB Pair.start s).appB := by
  have h := PairInv.of_start (eof := True) hw cfgA cfgB s fun _ _ _ => trivial
  generalize Pair.run spec cfgA cfgB Pair.start s = p at *
  obtain ⟨hab, hba, hAB, hBA⟩ := hq
  obtain ⟨lA, lB⟩ := h.app_le hw xA xB
  have nA : NoHC p.appA := .of_prefix lA hnA
  have nB : NoHC p.appB := .of_prefix lB hnB
  suffices p.a.phase = .closed ∨ p.b.phase = .closed from
    ⟨this.elim id hBA, this.elim hAB id, nA, nB⟩
  rcases h.A.resp_or_closed with yA | ⟨-, ca⟩
  · rcases h.B.resp_or_closed with yB | ⟨-, cb⟩
    · -- no end-of-stream cut anything short: the state is the outcome of the exchange
      rw [hab, List.append_nil] at yA
      rw [hba, List.append_nil] at yB
      obtain ⟨rfl, rfl, -, -⟩ := h.forced.outcome yA yB hF xA xB
      exact hcl
    · exact .inr cb
  · exact .inl ca

end PairInv

section Greeting
variable {spec : AbsSpec} {cfg : Cfg}

/-- greeting-phase states -/
def gs (rs : Bool) (v : Option Version) (acc : Bytes) : Eng := { acc := acc, revisionSent := rs, version := v }

theorem init_eq_gs : Eng.init = gs false none [] := rfl

theorem addAcc_gs (rs v acc d) : addAcc (gs rs v acc) d = gs rs v (acc ++ d) := rfl

/-! `step` in the greeting phase, stage by stage: the revision byte is sent once the peer's signature is there, the rest
of the greeting once its revision byte is there, and the greeting is looked at once all 64 bytes are (`step_greet`). -/

theorem step_g1 (t : Nat) (r : Bytes) :
    step spec cfg t (gs false none (Gen.SIGNATURE ++ r))
      = some (gs true none (Gen.SIGNATURE ++ r), { net := [sendAct [Gen.V3_REVISION]] }) := by
  simp [step, gs, Gen.SIGNATURE, Gen.SIGNATURE_LENGTH, Gen.sigFirst, Gen.sigLast]

theorem step_g2_none (t : Nat) (acc : Bytes) (h : acc.length < 11) : step spec cfg t (gs true none acc) = none := by
  simp [step, gs, Gen.REVISION_OFFSET, h]

theorem step_g2 (t : Nat) (r : Bytes) :
    step spec cfg t (gs true none (Gen.SIGNATURE ++ Gen.V3_REVISION :: r))
      = some (gs true (some .v3) (Gen.SIGNATURE ++ Gen.V3_REVISION :: r), { net := [sendAct (v3Tail cfg)] }) := by
  simp [step, gs, Gen.SIGNATURE, Gen.REVISION_OFFSET, Gen.V3_REVISION]

theorem step_g3_none (t : Nat) (acc : Bytes) (h : acc.length < 64) :
    step spec cfg t (gs true (some .v3) acc) = none := by
  simp [step, gs, Gen.GREETING_LENGTH, h]

/-- the state after the peer's signature and revision byte -/
def g2 : Eng := gs true (some .v3) (Gen.SIGNATURE ++ [Gen.V3_REVISION])

/-- the greeting `cfg` puts on the wire -/
def ownGreet (cfg : Cfg) : Bytes := Gen.SIGNATURE ++ [Gen.V3_REVISION] ++ v3Tail cfg

theorem sendsOf_app_only (l : List AppAct) : sendsOf { app := l } = [] := rfl

theorem sendsOf_one (a : Bytes) : sendsOf { net := [sendAct a] } = a := by
  simp [sendsOf, sendAct]

theorem Resp.sig :
    Resp spec cfg Gen.SIGNATURE (gs true none Gen.SIGNATURE) [] (Gen.SIGNATURE ++ [Gen.V3_REVISION]) :=
  ⟨rfl, rfl, rfl⟩

theorem Resp.sig_rev : Resp spec cfg (Gen.SIGNATURE ++ [Gen.V3_REVISION]) g2 [] (ownGreet cfg) := by
  refine ⟨rfl, rfl, ?_⟩
  show Gen.SIGNATURE ++ sendsOf { net := [sendAct [Gen.V3_REVISION], sendAct (v3Tail cfg)] } = _
  simp [sendsOf, sendAct, ownGreet]

theorem stOf_sig_rev (hw : WellBehaved spec) : stOf spec cfg (Gen.SIGNATURE ++ [Gen.V3_REVISION]) = g2 :=
  Resp.sig_rev.st

theorem appOf_sig_rev (hw : WellBehaved spec) : appOf spec cfg (Gen.SIGNATURE ++ [Gen.V3_REVISION]) = [] :=
  Resp.sig_rev.app

theorem forced_greet (hw : WellBehaved spec) (cfgA cfgB : Cfg) :
    Forced spec cfgA cfgB (ownGreet cfgB) (ownGreet cfgA) :=
  -- nothing, then the signatures, then the revision bytes, then the greetings
  ((Forced.nil.round hw Resp.nil.out Resp.nil.out).round hw Resp.sig.out Resp.sig.out).round hw
    Resp.sig_rev.out Resp.sig_rev.out

theorem ownGreet_length (peer : Cfg) : (ownGreet peer).length = 64 := by
  unfold ownGreet v3Tail
  cases localMech peer <;> rfl

theorem decodeGreeting_ownGreet (peer : Cfg) :
    decodeGreeting (ownGreet peer) = some { mechanism := mechNameBytes (localMech peer), asServer := peer.isServer } := by
  unfold ownGreet v3Tail
  cases localMech peer <;> cases peer.isServer <;> decide

theorem step_greet (t : Nat) (peer : Cfg) :
    step spec cfg t (addAcc g2 (v3Tail peer)) =
      match negotiate spec cfg { mechanism := mechNameBytes (localMech peer), asServer := peer.isServer } with
      | .error e => some (fail (gs true (some .v3) []) e)
      | .ok m =>
        if mechStatus spec cfg m == .ready then
          some (enterReady cfg { gs true (some .v3) [] with mech := m, gNegotiated := some (mechKindOf m) }
            (match m with | .abs .. => true | _ => false))
        else
          some ({ gs true (some .v3) [] with mech := m, gNegotiated := some (mechKindOf m), phase := .security }, {}) := by
  have hl := ownGreet_length peer
  show step spec cfg t (gs true (some .v3) (ownGreet peer)) = _
  simp only [step, gs, Gen.GREETING_LENGTH, List.take_of_length_le (Nat.le_of_eq hl),
    List.drop_of_length_le (Nat.le_of_eq hl), decodeGreeting_ownGreet, hl, Nat.lt_irrefl, Bool.not_true,
    Bool.false_eq_true, Option.isNone_some, ↓reduceIte]
  rfl

theorem find_known (k : MechKind) :
    Gen.knownMechanisms.find? (fun k' => mechNameBytes k' == mechNameBytes k) = some k := by
  cases k <;> rfl

theorem negotiate_disabled (k : MechKind) (srv : Bool) (h : mechEnabled cfg k = false) :
    negotiate spec cfg { mechanism := mechNameBytes k, asServer := srv } = .error .sec := by
  simp [negotiate, find_known, h]

theorem negotiate_null (srv : Bool) (h : cfg.securityEnabled = false) :
    negotiate spec cfg { mechanism := mechNameBytes .null, asServer := srv } = .ok .null := by
  simp [negotiate, find_known, mechEnabled, h]

theorem negotiate_plain (srv : Bool) (h : cfg.usePlain = true) :
    negotiate spec cfg { mechanism := mechNameBytes .plain, asServer := srv }
      = .ok (.plain (if cfg.isServer then .serverExpectHello else .clientSendHello)) := by
  simp [negotiate, find_known, mechEnabled, h]

theorem localMech_null (h : NullCfg cfg) : localMech cfg = .null := by
  obtain ⟨_, h2, h3, h4⟩ := h
  simp [localMech, Gen.localMechPriority, mechEnabled, h2, h3, h4]

theorem localMech_plain (h : PlainCfg cfg) : localMech cfg = .plain := by
  obtain ⟨_, h2, _, _⟩ := h
  simp [localMech, Gen.localMechPriority, mechEnabled, h2]

theorem Resp.greet_mismatch (hw : WellBehaved spec) (cfg peer : Cfg) (h : mechEnabled cfg (localMech peer) = false) :
    Resp spec cfg (ownGreet peer) (fail (gs true (some .v3) []) .sec).1 [.peerError .sec] (ownGreet cfg) := by
  have hs : step spec cfg 0 (addAcc g2 (v3Tail peer)) = some (fail (gs true (some .v3) []) .sec) := by
    rw [step_greet, negotiate_disabled _ _ h]
  have := Resp.sig_rev.read_step hw hs rfl
  rwa [sendsOf_app_only, List.append_nil] at this

end Greeting

section Ready
variable {spec : AbsSpec} {cfg peer : Cfg}

/-- NULL negotiated, waiting for the peer's READY -/
def rdy : Eng :=
  { phase := .ready, revisionSent := true, version := some .v3, mech := .null, gNegotiated := some .null }

/-- NULL handshake complete -/
def dat : Eng :=
  { phase := .data, revisionSent := true, version := some .v3, mech := .null, gNegotiated := some .null }

/-- What a NULL endpoint has sent once it has the peer's greeting: the connecting side sends its READY at once
(`enterReady`), the listening side only in answer to the peer's (the `.ready` case of `step`). Stated for both roles
at once, so that neither the transcripts nor the exchanges built from them distinguish who connects. -/
def nullOpening (cfg : Cfg) : Bytes := ownGreet cfg ++ if cfg.isServer then [] else readyBytes cfg

/-- the full transcript of a NULL endpoint in a successful handshake -/
def nullFull (cfg : Cfg) : Bytes := ownGreet cfg ++ readyBytes cfg

theorem nullOpening_server (h : cfg.isServer = true) : nullOpening cfg = ownGreet cfg := by
  simp [nullOpening, h]

theorem nullOpening_client (h : cfg.isServer = false) : nullOpening cfg = nullFull cfg := by
  simp [nullOpening, nullFull, h]

theorem nullOpening_ready (cfg : Cfg) :
    nullOpening cfg ++ (if cfg.isServer then readyBytes cfg else []) = nullFull cfg := by
  cases h : cfg.isServer <;> simp [nullOpening, nullFull, h]

theorem sendsOf_ite (c : Bool) (x y : List NetAct) :
    sendsOf { net := if c then x else y } = if c then sendsOf { net := x } else sendsOf { net := y } := by
  cases c <;> rfl

theorem Resp.greet_null (hw : WellBehaved spec) (hc : NullCfg cfg) (hp : NullCfg peer) :
    Resp spec cfg (ownGreet peer) rdy [] (nullOpening cfg) := by
  have hs : step spec cfg 0 (addAcc g2 (v3Tail peer))
      = some (rdy, { net := if cfg.isServer then [] else [sendAct (readyBytes cfg)] }) := by
    rw [step_greet, localMech_null hp, negotiate_null _ hc.1]
    rfl
  have := Resp.sig_rev.read_step hw hs rfl
  rwa [sendsOf_ite, sendsOf_one] at this

theorem decode_ready (peer : Cfg) (hid : peer.routingId.length ≤ 255) :
    decodeBuffer (hsLimit cfg) (readyBytes peer) = .frame (cmdFrame (readyBody peer)) [] := by
  have hl := readyBody_length peer
  -- far below the handshake frame limit and the 2^64 the length field can hold: two properties, with the identity at most
  -- 255 bytes
  have hb : (encodeProps (localReadyProps peer)).length ≤ 300 := by
    have hs := peer.sockType.bytes_length_le
    have h1 : keyIdentity.length = 8 := rfl
    have h2 : keySocketType.length = 11 := rfl
    have h4 : ∀ n, (be32 n).length = 4 := fun _ => rfl
    simp only [localReadyProps]
    split <;> simp [encodeProps, h1, h2, h4] <;> omega
  rw [readyBytes_eq]
  exact decode_cmd (readyBody peer) (by simp only [hl, two64]; omega)
    (hsLimit_admits (by simp only [hl, Gen.HANDSHAKE_FRAME_LIMIT]; omega))

theorem step_ready (peer : Cfg) (hid : peer.routingId.length ≤ 255) :
    step spec cfg 0 (addAcc (rdy) (readyBytes peer)) =
      if typesCompatible cfg.sockType peer.sockType then
        some (dat, { net := (if cfg.isServer then [sendAct (readyBytes cfg)] else []) ++ corkOn cfg,
                        app := [handshakeOf peer] })
      else some (fail (rdy) .proto) := by
  simp only [step, addAcc, rdy, List.nil_append, decode_ready peer hid, cmdFrame, parseCmd_readyBody peer hid,
    lookup_sockType, lookup_identity, ofBytes_bytes, handshakeOf, dat, Gen.v3ValidatesSocketType]
  cases typesCompatible cfg.sockType peer.sockType <;> rfl

theorem sendsOf_corkOn (cfg : Cfg) (n : List NetAct) (l : List AppAct) :
    sendsOf { net := n ++ corkOn cfg, app := l } = sendsOf { net := n } := by
  unfold sendsOf corkOn
  split <;> simp

theorem Resp.null_ok (hw : WellBehaved spec) (hc : NullCfg cfg) (hp : NullCfg peer) (hid : peer.routingId.length ≤ 255)
    (hcompat : typesCompatible cfg.sockType peer.sockType = true) :
    Resp spec cfg (nullFull peer) dat [handshakeOf peer] (nullFull cfg) := by
  have := (Resp.greet_null hw hc hp).read_step hw ((step_ready peer hid).trans (if_pos hcompat)) rfl
  rwa [sendsOf_corkOn, sendsOf_ite, sendsOf_one, sendsOf_empty, nullOpening_ready] at this

theorem Resp.null_bad (hw : WellBehaved spec) (hc : NullCfg cfg) (hp : NullCfg peer) (hid : peer.routingId.length ≤ 255)
    (hcompat : typesCompatible cfg.sockType peer.sockType = false) :
    Resp spec cfg (nullFull peer) (fail rdy .proto).1 [.peerError .proto] (nullOpening cfg) := by
  have := (Resp.greet_null hw hc hp).read_step hw
    ((step_ready peer hid).trans (if_neg (by simp [hcompat]))) rfl
  rwa [sendsOf_app_only, List.append_nil] at this

end Ready

section Plain
variable {spec : AbsSpec} {cfg peer : Cfg}

/-- security-phase states of the PLAIN mechanism -/
def secS (st : PlainState) : Eng :=
  { phase := .security, revisionSent := true, version := some .v3, mech := .plain st,
    gNegotiated := some .plain }

def helloTok (cfg : Cfg) : Bytes :=
  lenPrefixed Gen.plainHello ++ helloBody (cfg.plainUser.getD []) (cfg.plainPass.getD [])

def helloBytes (cfg : Cfg) : Bytes := encodeCodec (cmdFrame (helloTok cfg))

theorem Resp.plain_cli (hw : WellBehaved spec) (hc : PlainCfg cfg) (hp : PlainCfg peer) (hs : cfg.isServer = false) :
    Resp spec cfg (ownGreet peer) (secS .clientExpectWelcome) [] (ownGreet cfg ++ helloBytes cfg) := by
  have h1 : step spec cfg 0 (addAcc g2 (v3Tail peer)) = some (secS .clientSendHello, {}) := by
    rw [step_greet, localMech_plain hp, negotiate_plain _ hc.2.1, hs]
    rfl
  -- the client's HELLO follows in the same read
  have hr : onNetworkBytes spec cfg 0 g2 (v3Tail peer)
      = (secS .clientExpectWelcome, { net := [sendAct (helloBytes cfg)] }) := by
    rw [onNetworkBytes_eq hw, runQ_some hw h1, runQ_some hw (s' := secS .clientExpectWelcome) rfl, runQ_none rfl]
    rfl
  have := Resp.sig_rev.read (cfg := cfg) hw (v3Tail peer)
  rwa [hr, sendsOf_one] at this

theorem Resp.plain_srv (hw : WellBehaved spec) (hc : PlainCfg cfg) (hp : PlainCfg peer) (hs : cfg.isServer = true) :
    Resp spec cfg (ownGreet peer) (secS .serverExpectHello) [] (ownGreet cfg) := by
  have h1 : step spec cfg 0 (addAcc g2 (v3Tail peer)) = some (secS .serverExpectHello, {}) := by
    rw [step_greet, localMech_plain hp, negotiate_plain _ hc.2.1, hs]
    rfl
  have := Resp.sig_rev.read_step hw h1 rfl
  simp only [sendsOf_empty, List.append_nil] at this
  exact this

theorem Resp.plain_hello_bad (hw : WellBehaved spec) (hc : PlainCfg cfg) (hp' : PlainCfg peer)
    (hs : cfg.isServer = true)
    (hu : (peer.plainUser.getD []).length ≤ 255) (hp : (peer.plainPass.getD []).length ≤ 255)
    (hwrong : cfg.plainUser ≠ some (peer.plainUser.getD []) ∨ cfg.plainPass ≠ some (peer.plainPass.getD [])) :
    Resp spec cfg (ownGreet peer ++ helloBytes peer) (fail (secS .serverExpectHello) .auth).1
      [.peerError .auth] (ownGreet cfg) := by
  have hlen : (helloTok peer).length ≤ 600 := by
    have : Gen.plainHello.length = 5 := rfl
    simp only [helloTok, lenPrefixed, helloBody, List.length_append, List.length_cons, List.length_take, this]
    omega
  have hdec : decodeBuffer (hsLimit cfg) (helloBytes peer) = .frame (cmdFrame (helloTok peer)) [] :=
    decode_cmd _ (by simp only [two64]; omega) (hsLimit_admits (by simp only [Gen.HANDSHAKE_FRAME_LIMIT]; omega))
  have hcred : (cfg.plainUser == some (peer.plainUser.getD []) && cfg.plainPass == some (peer.plainPass.getD [])) = false := by
    rw [Bool.and_eq_false_iff, beq_eq_false_iff_ne, beq_eq_false_iff_ne]
    exact hwrong
  have hpt : processToken spec cfg (.plain .serverExpectHello) (helloTok peer) = .error .auth := by
    simp only [helloTok, lenPrefixed, Gen.plainHello, processToken, List.cons_append]
    simp [hs, parseHello_helloBody _ _ hu hp, hcred]
  have hstep : step spec cfg 0 (addAcc (secS .serverExpectHello) (helloBytes peer))
      = some (fail (secS .serverExpectHello) .auth) := by
    simp only [step, addAcc, secS, List.nil_append, produceToken, mechStatus, hdec, cmdFrame, hpt]
    rfl
  have := (Resp.plain_srv hw hc hp' hs).read_step hw hstep rfl
  rwa [sendsOf_app_only, List.append_nil] at this

end Plain

section Null
variable {spec : AbsSpec} {cfg peer cfgA cfgB : Cfg}

theorem forced_nullOpening (hw : WellBehaved spec) (hA : NullCfg cfgA) (hB : NullCfg cfgB) :
    Forced spec cfgA cfgB (nullOpening cfgB) (nullOpening cfgA) :=
  (forced_greet hw cfgA cfgB).round hw (Resp.greet_null hw hA hB).out (Resp.greet_null hw hB hA).out

theorem emitted_nullOpening (hw : WellBehaved spec) (hc : NullCfg cfg) (hp : NullCfg peer)
    (hid : peer.routingId.length ≤ 255)
    (hcompat : typesCompatible cfg.sockType peer.sockType = true) (hrole : peer.isServer = true → cfg.isServer = false) :
    emitted spec cfg (nullOpening peer) = nullFull cfg := by
  cases hs : peer.isServer
  · -- the peer connects: its opening is its full transcript
    rw [nullOpening_client hs]
    exact (Resp.null_ok hw hc hp hid hcompat).out
  · -- the peer listens: its opening is its greeting, on which `cfg`, connecting, sends all it ever sends
    rw [nullOpening_server hs, (Resp.greet_null hw hc hp).out]
    exact nullOpening_client (hrole hs)

/-- the answer is a refusal only if the opening contained a READY, i.e. if the peer connects -/
theorem Resp.nullOpening_bad (hw : WellBehaved spec) (hc : NullCfg cfg) (hp : NullCfg peer)
    (hid : peer.routingId.length ≤ 255)
    (hcompat : typesCompatible cfg.sockType peer.sockType = false) :
    ∃ s app, Resp spec cfg (nullOpening peer) s app (nullOpening cfg) ∧ NoHC app ∧
      (peer.isServer = false → s.phase = .closed) := by
  cases hs : peer.isServer
  · rw [nullOpening_client hs]
    exact ⟨_, _, Resp.null_bad hw hc hp hid hcompat, noHC_peerError _, fun _ => rfl⟩
  · rw [nullOpening_server hs]
    exact ⟨_, _, Resp.greet_null hw hc hp, nofun, nofun⟩

end Null

end Rzmq
