import RzmqModel.Model.Engine
/-! Heartbeats (C19). `Tick` lists what `onTick` can do, each outcome with the conditions under which it happens
(`onTick_tick`): the theorems of C19 that say what follows from an effect of a tick are case analyses on it;
`onTick_ping` is the converse for the PING. -/
namespace Rzmq

-- the PING a tick sends; its TTL field (16 bits) carries HEARTBEAT_TIMEOUT
def C19.pingAct (cfg : Cfg) : NetAct :=
  sendAct (pingBytes (match cfg.heartbeatTimeout with | some t => min t 65535 | none => 0))

inductive Tick (cfg : Cfg) (now : Nat) (s : Eng) : Eng × Out → Prop
  | idle : Tick cfg now s (s, {})
  | timeout (p tmo : Nat) (hd : s.phase = .data) (hv : s.version ≠ some .v2) (hw : s.waitingForPong = true)
      (hp : s.lastPing = some p) (ht : cfg.heartbeatTimeout = some tmo) (hdl : tmo ≤ now - p) :
      Tick cfg now s ({ s with phase := .closed }, { app := [.peerError .timeout] })
  | ping (ivl : Nat) (hd : s.phase = .data) (hv : s.version ≠ some .v2) (hw : s.waitingForPong = false)
      (hi : cfg.heartbeatIvl = some ivl) (hdue : ivl ≤ now - s.lastActivity) :
      Tick cfg now s ({ s with waitingForPong := true, lastPing := some now }, { net := [C19.pingAct cfg] })

theorem onTick_tick (cfg : Cfg) (now : Nat) (s : Eng) : Tick cfg now s (onTick cfg now s) := by
  fun_cases onTick cfg now s
  case case3 hd hv timedOut h =>
    simp only [timedOut] at h
    split at h
    · simp at h hd hv
      exact .timeout _ _ hd hv h.1 ‹_› ‹_› h.2
    · cases h
  case case4 hd hv _ _ ivl hi h _ =>
    simp at h hd hv
    exact .ping ivl hd hv h.1 hi h.2
  all_goals exact .idle

theorem onTick_ping {cfg : Cfg} {now : Nat} {s : Eng} {ivl : Nat} (hd : s.phase = .data) (hv : s.version ≠ some .v2)
    (hw : s.waitingForPong = false) (hi : cfg.heartbeatIvl = some ivl) (hdue : ivl ≤ now - s.lastActivity) :
    onTick cfg now s = ({ s with waitingForPong := true, lastPing := some now }, { net := [C19.pingAct cfg] }) := by
  -- the timeout branch comes first in `onTick`, but no PONG can be overdue when none is awaited (`hw`)
  unfold onTick C19.pingAct
  cases cfg.heartbeatTimeout <;> cases s.lastPing <;> simp [hd, hv, hw, hi, hdue]

theorem onTick_app_nil_of_not_waiting (cfg : Cfg) (now : Nat) (s : Eng) (hw : s.waitingForPong = false) :
    (onTick cfg now s).2.app = [] := by
  have h := onTick_tick cfg now s
  generalize onTick cfg now s = r at h
  cases h with
  | timeout _ _ _ _ hw' => rw [hw] at hw'; cases hw'
  | _ => rfl

/-- `ZmtpCommand::parse` on the body built by `create_ping(ttl, ctx)` -/
theorem parseCmd_ping (ttl : Nat) (ctx : Bytes) :
    parseCmd (Gen.mkPing ++ be16 ttl ++ ctx) = some (.ping ctx) := by
  simp [parseCmd, Gen.mkPing, Gen.cmdPing, Gen.cmdPingMinLen, Gen.pingContextOffset, be16,
    List.isPrefixOf]

end Rzmq
