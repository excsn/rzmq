import RzmqModel.Model.FrameWise
/-!
Lemmas about M14 `FrameWise` (C02).  Three things are kept by every step of `Fw.step`, each shown branch by branch (the
branches in source order: frame routed on its own, over-long message dropped, frame held, last frame completes the
message, empty `send_multipart`, `send_multipart`): everything routed is a whole message (`Fw.Inv`, needs a socket that
holds parts), no frame is lost or doubled while no error is counted (`Fw.out_step`), the peers are served in turn
(`Fw.Turns`).
-/
namespace Rzmq

theorem wholeUnit_cons (f : FwFrame) {rest : List FwFrame} (h : rest ≠ []) :
    wholeUnit (f :: rest) = (f.more && wholeUnit rest) := by
  cases rest with
  | nil => exact absurd rfl h
  | cons g r => rfl

theorem wholeUnit_ne_nil {u : List FwFrame} (h : wholeUnit u = true) : u ≠ [] := by
  rintro rfl
  cases h

theorem wholeUnit_fwNormaliseMore (fs : List FwFrame) (h : fs ≠ []) : wholeUnit (fwNormaliseMore fs) = true := by
  fun_induction fwNormaliseMore fs with
  | case1 => exact absurd rfl h
  | case2 f => rfl
  | case3 f rest hne ih =>
    have hr := ih hne
    rw [wholeUnit_cons _ (wholeUnit_ne_nil hr), hr]
    rfl

theorem wholeUnit_append_last (ps : List FwFrame) (f : FwFrame) (hps : ∀ p ∈ ps, p.more = true) (hf : f.more = false) :
    wholeUnit (ps ++ [f]) = true := by
  induction ps with
  | nil => simp [wholeUnit, hf]
  | cons p rest ih =>
    rw [List.cons_append, wholeUnit_cons _ (by simp), hps p (by simp), ih fun q hq => hps q (by simp [hq])]
    rfl

/-- held frames all carry MORE; everything routed is whole -/
def Fw.Inv (s : Fw) : Prop := (∀ p ∈ s.parts, p.more = true) ∧ (∀ u ∈ s.got, wholeUnit u.2 = true)

theorem Fw.Inv.route {s : Fw} (h : s.Inv) {u : List FwFrame} (hu : wholeUnit u = true) : (s.route u).Inv :=
  ⟨h.1, List.forall_mem_append.2 ⟨h.2, List.forall_mem_singleton.2 hu⟩⟩

theorem Fw.step_inv (c : FwCfg) (hc : c.holdsParts = true) (s : Fw) (e : FwEv) (h : s.Inv) : (Fw.step c s e).Inv := by
  fun_cases Fw.step c s e with
  | case1 f hn => simp [hc] at hn
  | case2 f _ _ => exact ⟨by simp, h.2⟩
  | case3 f _ _ hm => exact ⟨List.forall_mem_append.2 ⟨h.1, List.forall_mem_singleton.2 hm⟩, h.2⟩
  | case4 f _ _ hm =>
    exact Fw.Inv.route (s := { s with parts := [] }) ⟨by simp, h.2⟩ (wholeUnit_append_last _ _ h.1 (by simpa using hm))
  | case5 fs _ => exact h
  | case6 fs hne => exact h.route (wholeUnit_fwNormaliseMore fs (by simpa using hne))

theorem Fw.run_inv (c : FwCfg) (hc : c.holdsParts = true) (s : Fw) (evs : List FwEv) (h : s.Inv) : (Fw.run c s evs).Inv :=
  List.foldlRecOn evs _ h fun t ht e _ => Fw.step_inv c hc t e ht

def fwKey (f : FwFrame) : Nat × Nat := (f.tag, f.idx)

/-- the frames the application gave, in order -/
def fwGiven : List FwEv → List (Nat × Nat)
  | [] => []
  | .send f :: r => fwKey f :: fwGiven r
  | .sendMultipart fs :: r => fs.map fwKey ++ fwGiven r

/-- the frames the socket has routed or still holds, in order -/
def Fw.out (s : Fw) : List (Nat × Nat) := (s.got.flatMap (·.2) ++ s.parts).map fwKey

theorem fwNormaliseMore_keys (fs : List FwFrame) : (fwNormaliseMore fs).map fwKey = fs.map fwKey := by
  fun_induction fwNormaliseMore fs with
  | case1 => rfl
  | case2 f => rfl
  | case3 f rest hne ih => simp only [List.map_cons, ih]; rfl

theorem fwGiven_cons (e : FwEv) (r : List FwEv) : fwGiven (e :: r) = fwGiven [e] ++ fwGiven r := by
  cases e <;> simp [fwGiven]

theorem Fw.out_route (s : Fw) (u : List FwFrame) : (s.route u).out.Perm (s.out ++ u.map fwKey) := by
  simp only [Fw.out, Fw.route, List.flatMap_append, List.flatMap_cons, List.flatMap_nil, List.append_nil,
    List.map_append, List.append_assoc]
  exact List.Perm.append_left _ List.perm_append_comm

/-- `Perm`, not equality: a `send_multipart` call may overtake the frames of the message that is still being assembled -/
theorem Fw.out_step (c : FwCfg) (s : Fw) (e : FwEv) :
    s.errors ≤ (Fw.step c s e).errors ∧
      ((Fw.step c s e).errors = s.errors → (Fw.step c s e).out.Perm (s.out ++ fwGiven [e])) := by
  fun_cases Fw.step c s e with
  | case1 f _ => exact ⟨Nat.le_refl _, fun _ => Fw.out_route s [f]⟩
  | case2 f _ _ => exact ⟨Nat.le_succ _, fun h => absurd h (Nat.succ_ne_self _)⟩
  | case3 f _ _ _ => exact ⟨Nat.le_refl _, fun _ => by simp [Fw.out, fwGiven]⟩
  | case4 f _ _ _ => exact ⟨Nat.le_refl _, fun _ => by simp [Fw.out, Fw.route, fwGiven]⟩
  | case5 fs he => exact ⟨Nat.le_refl _, fun _ => by simp [fwGiven, List.isEmpty_iff.1 he]⟩
  | case6 fs _ =>
    exact ⟨Nat.le_refl _, fun _ => by simpa [fwGiven, fwNormaliseMore_keys] using Fw.out_route s (fwNormaliseMore fs)⟩

theorem Fw.out_run (c : FwCfg) (evs : List FwEv) (s : Fw) :
    s.errors ≤ (Fw.run c s evs).errors ∧
      ((Fw.run c s evs).errors = s.errors → (Fw.run c s evs).out.Perm (s.out ++ fwGiven evs)) := by
  induction evs generalizing s with
  | nil => exact ⟨Nat.le_refl _, fun _ => by simp [Fw.run, fwGiven]⟩
  | cons e r ih =>
    obtain ⟨h1, h2⟩ := Fw.out_step c s e
    obtain ⟨h3, h4⟩ := ih (Fw.step c s e)
    refine ⟨Nat.le_trans h1 h3, fun h => ?_⟩
    have h : (Fw.run c (Fw.step c s e) r).errors = s.errors := h
    rw [fwGiven_cons, ← List.append_assoc]
    exact (h4 (by omega)).trans (List.Perm.append_right _ (h2 (by omega)))

/-- the peers have been served strictly in turn: with `n` peers and a cursor that started at `k`, the i-th routed unit
went to peer (k + i) mod n -/
def Fw.Turns (n k : Nat) (s : Fw) : Prop :=
  s.peers = n ∧ s.cursor = k + s.got.length ∧ s.got.map (·.1) = (List.range s.got.length).map fun i => (k + i) % max n 1

theorem Fw.Turns.route {n k : Nat} {s : Fw} (h : s.Turns n k) (u : List FwFrame) : (s.route u).Turns n k := by
  obtain ⟨h1, h2, h3⟩ := h
  refine ⟨h1, ?_, ?_⟩
  · simp [Fw.route, h2, Nat.add_assoc]
  · simp [Fw.route, List.range_succ, h1, h2, h3]

theorem Fw.rr_step (c : FwCfg) (s : Fw) (e : FwEv) {n k : Nat} (h : s.Turns n k) : (Fw.step c s e).Turns n k := by
  fun_cases Fw.step c s e with
  | case1 f _ => exact h.route _
  | case4 f _ _ _ => exact Fw.Turns.route (s := { s with parts := [] }) h _
  | case6 fs _ => exact h.route _
  | _ => exact h

theorem Fw.rr_run (c : FwCfg) (evs : List FwEv) (s : Fw) {n k : Nat} (h : s.Turns n k) : (Fw.run c s evs).Turns n k :=
  List.foldlRecOn evs _ h fun t ht e _ => Fw.rr_step c t e ht

end Rzmq
