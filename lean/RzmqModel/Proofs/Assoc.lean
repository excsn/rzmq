/-!
The models keep their small tables (pc per task, entry per key) as association lists that are updated by filtering the
key out and appending the new pair, and read with `find?`.
-/
namespace Rzmq

theorem find?_fst_filter {β : Type} (l : List (Nat × β)) (k k' : Nat) :
    (l.filter (·.1 != k)).find? (·.1 == k') = if k' = k then none else l.find? (·.1 == k') := by
  rw [List.find?_filter]
  split
  · next e => simp [e]
  · next hne =>
    congr 1
    funext p
    by_cases hp : p.1 = k' <;> simp [hp, hne]

/-- lookup in a pc association list with default `d` -/
def pcOf {α : Type} (l : List (Nat × α)) (d : α) (t : Nat) : α :=
  ((l.find? (·.1 == t)).map (·.2)).getD d

/-- filter-then-append update -/
def setL {α : Type} (l : List (Nat × α)) (t : Nat) (v : α) : List (Nat × α) :=
  (l.filter (·.1 != t)) ++ [(t, v)]

theorem pcOf_setL {α : Type} (l : List (Nat × α)) (d : α) (t t' : Nat) (v : α) :
    pcOf (setL l t v) d t' = if t' = t then v else pcOf l d t' := by
  unfold pcOf setL
  rw [List.find?_append, find?_fst_filter]
  split
  · next e => simp [e]
  · next hne => cases l.find? (·.1 == t') <;> simp [Ne.symm hne]

end Rzmq
