import RzmqModel.Model.Routing
/-!
The ROUTER identity map (C11) is compared with a specification `RSpec` that records, per live pipe, its identity and
endpoint.  Every operation of the map has a canonical form (`addPeer_eq`, `updateIdentity_eq`, `removeByPipe_eq`): the
reverse entry of the pipe is set or removed, and the forward entry of the pipe's previous identity is dropped if the
pipe still owns it (`amGet_dropOwned`).  `RouterInv` (always) and `RouterInvCF` (without identity collisions) are kept
by the two canonical forms, hence along every history of operations (`C11.MapOp`, run on the map by `C11.applyOp` and
on the specification by `C11.specApply`: `RouterInv.run`, `RouterInvCF.run`).

The envelope part: `normFlags` and `clearLastMore` by their cons equations.
-/
namespace Rzmq

section AssocList
variable {κ ν : Type} [BEq κ] [LawfulBEq κ] [DecidableEq κ]

omit [LawfulBEq κ] [DecidableEq κ] in
theorem amGet_nil (k : κ) : amGet ([] : List (κ × ν)) k = none := rfl

theorem amGet_cons (k' : κ) (v' : ν) (m : List (κ × ν)) (k : κ) :
    amGet ((k', v') :: m) k = if k' = k then some v' else amGet m k := by
  by_cases h : k' = k <;> simp [amGet, h]

theorem amGet_amInsert (m : List (κ × ν)) (k : κ) (v : ν) (k' : κ) :
    amGet (amInsert m k v) k' = if k = k' then some v else amGet m k' := by
  induction m with
  | nil => exact amGet_cons k v [] k'
  | cons e m ih => grind [amInsert, amGet_cons]

theorem amGet_amRemove (m : List (κ × ν)) (k k' : κ) :
    amGet (amRemove m k) k' = if k = k' then none else amGet m k' := by
  induction m with
  | nil => simp [amRemove, amGet_nil]
  | cons e m ih =>
    rw [amRemove, List.filter_cons, ← amRemove]
    grind [amGet_cons]

omit [DecidableEq κ] in
theorem amGet_mem (m : List (κ × ν)) (k : κ) (v : ν) (h : amGet m k = some v) : (k, v) ∈ m := by
  obtain ⟨e, he, rfl⟩ := Option.map_eq_some_iff.1 h
  exact eq_of_beq (List.find?_some (p := fun e : κ × ν => e.1 == k) he) ▸ List.mem_of_find?_eq_some he

theorem amRemove_amInsert_of_ne (m : List (κ × ν)) (k k' : κ) (v : ν) (h : k ≠ k') :
    amRemove (amInsert m k v) k' = amInsert (amRemove m k') k v := by
  induction m with
  | nil => simp [amInsert, amRemove, h]
  | cons e m ih => grind [amInsert, amRemove]

end AssocList

theorem ownedBy_iff (fwd : List (Ident × PeerInfo)) (id : Ident) (pipe : Nat) :
    ownedBy fwd id pipe = true ↔ ∃ i, amGet fwd id = some i ∧ i.pipe = pipe := by
  unfold ownedBy
  cases amGet fwd id with
  | none => simp
  | some i => simp

/-- the forward map after dropping the pipe's previous identity (if it changes and the pipe owns it) -/
def remFwd (m : RouterMap) (pipe : Nat) (id : Ident) : List (Ident × PeerInfo) :=
  match amGet m.rev pipe with
  | some oldId => if oldId != id && ownedBy m.fwd oldId pipe then amRemove m.fwd oldId else m.fwd
  | none => m.fwd

theorem amGet_dropOwned (fwd : List (Ident × PeerInfo)) (old k : Ident) (pipe : Nat) (i : PeerInfo) :
    amGet (if ownedBy fwd old pipe then amRemove fwd old else fwd) k = some i ↔
      amGet fwd k = some i ∧ ¬ (old = k ∧ i.pipe = pipe) := by
  split
  next ho =>
    obtain ⟨i', hi', hp⟩ := (ownedBy_iff ..).1 ho
    rw [amGet_amRemove]
    split
    next hk =>
      subst hk
      refine iff_of_false nofun fun ⟨h, hn⟩ => hn ⟨rfl, ?_⟩
      rw [hi'] at h
      cases h
      exact hp
    next hk => exact (and_iff_left fun h => hk h.1).symm
  next ho =>
    rw [iff_self_and]
    rintro h ⟨rfl, hp⟩
    exact ho ((ownedBy_iff ..).2 ⟨i, h, hp⟩)

theorem remFwd_get_eq_some (m : RouterMap) (pipe : Nat) (id k : Ident) (i : PeerInfo) :
    amGet (remFwd m pipe id) k = some i ↔
      amGet m.fwd k = some i ∧ ¬ (amGet m.rev pipe = some k ∧ k ≠ id ∧ i.pipe = pipe) := by
  unfold remFwd
  cases amGet m.rev pipe with
  | none => simp
  | some old =>
    simp only [Option.some.injEq]
    by_cases ho : old = id
    · subst ho
      rw [bne_self_eq_false, Bool.false_and, if_neg Bool.false_ne_true]
      exact (and_iff_left fun h => h.2.1 h.1.symm).symm
    · rw [bne_iff_ne.2 ho, Bool.true_and, amGet_dropOwned]
      exact and_congr_right' (not_congr (and_congr_right fun hk => (and_iff_right (hk ▸ ho)).symm))

theorem updateIdentity_eq (m : RouterMap) (pipe : Nat) (id : Ident) (uri : Nat) (s : Strat) :
    m.updateIdentity pipe id uri s
      = { fwd := amInsert (remFwd m pipe id) id { uri := uri, strat := s, pipe := pipe },
          rev := amInsert m.rev pipe id } := rfl

/-- `addPeer` inserts first and removes afterwards; the result is the same map -/
theorem addPeer_eq (m : RouterMap) (pipe : Nat) (id : Ident) (uri : Nat) :
    m.addPeer id pipe uri
      = { fwd := amInsert (remFwd m pipe id) id { uri := uri, strat := .default, pipe := pipe },
          rev := amInsert m.rev pipe id } := by
  unfold RouterMap.addPeer remFwd
  cases amGet m.rev pipe with
  | none => rfl
  | some old =>
    by_cases ho : old = id
    · simp [ho]
    · have hown : ownedBy (amInsert m.fwd id { uri := uri, strat := .default, pipe := pipe }) old pipe
          = ownedBy m.fwd old pipe := by
        rw [ownedBy, amGet_amInsert, if_neg (Ne.symm ho), ← ownedBy]
      simp only [hown]
      split
      · rw [amRemove_amInsert_of_ne _ _ _ _ (Ne.symm ho)]
      · rfl

theorem removeByPipe_eq (m : RouterMap) (pipe : Nat) :
    m.removeByPipe pipe = match amGet m.rev pipe with
      | none => m
      | some id => { fwd := if ownedBy m.fwd id pipe then amRemove m.fwd id else m.fwd, rev := amRemove m.rev pipe } := by
  unfold RouterMap.removeByPipe ownedBy
  cases amGet m.rev pipe with
  | none => rfl
  | some id =>
    simp only
    cases amGet m.fwd id with
    | none => rfl
    | some info => by_cases h : info.pipe = pipe <;> simp [h]

theorem removeByPipe_fwd_get_eq_some (m : RouterMap) (pipe : Nat) (k : Ident) (i : PeerInfo) :
    amGet (m.removeByPipe pipe).fwd k = some i ↔
      amGet m.fwd k = some i ∧ ¬ (amGet m.rev pipe = some k ∧ i.pipe = pipe) := by
  rw [removeByPipe_eq]
  cases amGet m.rev pipe with
  | none => simp
  | some id =>
    simp only [Option.some.injEq]
    exact amGet_dropOwned ..

theorem removeByPipe_rev_get (m : RouterMap) (pipe p : Nat) :
    amGet (m.removeByPipe pipe).rev p = if pipe = p then none else amGet m.rev p := by
  rw [removeByPipe_eq]
  cases hold : amGet m.rev pipe with
  | none =>
    simp only
    split
    next hpp => exact hpp ▸ hold
    · rfl
  | some id => exact amGet_amRemove ..

theorem removeByPipe_lookup_other (m : RouterMap) (pipe : Nat) (id : Ident)
    (hid : m.identityOfPipe pipe ≠ some id) : (m.removeByPipe pipe).lookup id = m.lookup id :=
  Option.ext fun i => by
    rw [RouterMap.lookup, removeByPipe_fwd_get_eq_some, RouterMap.lookup]
    exact and_iff_left fun h => hid h.1

abbrev RSpec := List (Nat × (Ident × PeerInfo))

/-- holds after EVERY history: the reverse map is exact, the forward map is sound -/
def RouterInv (m : RouterMap) (sp : RSpec) : Prop :=
  (∀ pipe id, amGet m.rev pipe = some id ↔ ∃ info, amGet sp pipe = some (id, info)) ∧
  (∀ id info, amGet m.fwd id = some info → amGet sp info.pipe = some (id, info))

/-- holds additionally after collision-free histories: the forward map is complete -/
def RouterInvCF (m : RouterMap) (sp : RSpec) : Prop :=
  (∀ pipe id info, amGet sp pipe = some (id, info) → amGet m.fwd id = some info) ∧
  (∀ pipe id info, amGet sp pipe = some (id, info) → info.pipe = pipe)

theorem RouterInv.init : RouterInv {} [] := by
  refine ⟨?_, ?_⟩ <;> simp [amGet_nil]

theorem RouterInvCF.init : RouterInvCF {} [] := by
  refine ⟨?_, ?_⟩ <;> simp [amGet_nil]

theorem RouterInv.rev_of_fwd {m : RouterMap} {sp : RSpec} (hinv : RouterInv m sp) {id : Ident} {info : PeerInfo}
    (h : amGet m.fwd id = some info) : amGet m.rev info.pipe = some id :=
  (hinv.1 _ _).2 ⟨info, hinv.2 _ _ h⟩

theorem noCollision_of_any (sp : RSpec) (pipe : Nat) (id : Ident)
    (h : (sp.any fun e => e.1 != pipe && e.2.1 == id) = false) :
    ∀ p i, amGet sp p = some (id, i) → p = pipe := by
  intro p i hg
  simpa using List.any_eq_false.1 h _ (amGet_mem sp p (id, i) hg)

/-- kept by the canonical form of `addPeer` / `updateIdentity` -/
theorem RouterInv.insert (m : RouterMap) (sp : RSpec) (pipe : Nat) (id : Ident) (info : PeerInfo)
    (hip : info.pipe = pipe) (hinv : RouterInv m sp) :
    RouterInv { fwd := amInsert (remFwd m pipe id) id info, rev := amInsert m.rev pipe id }
      (amInsert sp pipe (id, info)) := by
  refine ⟨fun p id' => ?_, fun id' info' => ?_⟩
  · simp only [amGet_amInsert]
    split
    · simp
    · exact hinv.1 p id'
  · simp only [amGet_amInsert]
    split
    next hid =>
      rintro ⟨rfl⟩
      rw [if_pos hip.symm, hid]
    next hid =>
      intro h
      obtain ⟨hf, hn⟩ := (remFwd_get_eq_some m pipe id id' info').1 h
      -- an entry that points at `pipe` is that of the pipe's previous identity, which `remFwd` has dropped
      rw [if_neg fun hpp : pipe = info'.pipe => hn ⟨hpp ▸ hinv.rev_of_fwd hf, Ne.symm hid, hpp.symm⟩]
      exact hinv.2 _ _ hf

theorem RouterInvCF.insert (m : RouterMap) (sp : RSpec) (pipe : Nat) (id : Ident) (info : PeerInfo)
    (hip : info.pipe = pipe) (hcf : RouterInvCF m sp)
    (hnc : ∀ p i, amGet sp p = some (id, i) → p = pipe) :
    RouterInvCF { fwd := amInsert (remFwd m pipe id) id info, rev := amInsert m.rev pipe id }
      (amInsert sp pipe (id, info)) := by
  obtain ⟨hC, hD⟩ := hcf
  refine ⟨fun p id' info' => ?_, fun p id' info' => ?_⟩
  · simp only [amGet_amInsert]
    split
    next hpp =>
      rintro ⟨rfl, rfl⟩
      rw [if_pos rfl]
    next hpp =>
      intro hs
      -- another pipe's identity differs from `id` (no collision) and its entry does not point at `pipe`
      have hid : id ≠ id' := fun e => hpp (hnc p info' (e ▸ hs)).symm
      rw [if_neg hid, remFwd_get_eq_some]
      exact ⟨hC _ _ _ hs, fun ⟨_, _, hp⟩ => hpp (hp.symm.trans (hD _ _ _ hs))⟩
  · simp only [amGet_amInsert]
    split
    next hpp =>
      rintro ⟨rfl, rfl⟩
      exact hip.trans hpp
    next hpp => exact hD p id' info'

theorem RouterInv.removeByPipe (m : RouterMap) (sp : RSpec) (pipe : Nat)
    (hinv : RouterInv m sp) : RouterInv (m.removeByPipe pipe) (amRemove sp pipe) := by
  refine ⟨fun p id => ?_, fun id info => ?_⟩
  · rw [removeByPipe_rev_get, amGet_amRemove]
    split
    · simp
    · exact hinv.1 p id
  · rw [removeByPipe_fwd_get_eq_some, amGet_amRemove]
    rintro ⟨hf, hn⟩
    rw [if_neg fun hpp : pipe = info.pipe => hn ⟨hpp ▸ hinv.rev_of_fwd hf, hpp.symm⟩]
    exact hinv.2 _ _ hf

theorem RouterInvCF.removeByPipe (m : RouterMap) (sp : RSpec) (pipe : Nat)
    (hcf : RouterInvCF m sp) : RouterInvCF (m.removeByPipe pipe) (amRemove sp pipe) := by
  obtain ⟨hC, hD⟩ := hcf
  refine ⟨fun p id info => ?_, fun p id info => ?_⟩
  · rw [removeByPipe_fwd_get_eq_some, amGet_amRemove]
    split
    · exact nofun
    next hpp =>
      intro hs
      exact ⟨hC _ _ _ hs, fun ⟨_, hp⟩ => hpp (hp.symm.trans (hD _ _ _ hs))⟩
  · rw [amGet_amRemove]
    split
    · exact nofun
    · exact hD p id info

namespace C11

/-- the operations of the ROUTER socket on its identity map (what the histories of C11 are made of) -/
inductive MapOp where
  | add (id : Ident) (pipe uri : Nat)
  | update (pipe : Nat) (id : Ident) (uri : Nat) (s : Strat)
  | removePipe (pipe : Nat)
deriving DecidableEq, Repr

def applyOp (m : RouterMap) : MapOp → RouterMap
  | .add id pipe uri => m.addPeer id pipe uri
  | .update pipe id uri s => m.updateIdentity pipe id uri s
  | .removePipe pipe => m.removeByPipe pipe

/-- the specification: per live pipe, its current identity and endpoint -/
abbrev Spec := List (Nat × (Ident × PeerInfo))

def specApply (sp : Spec) : MapOp → Spec
  | .add id pipe uri => amInsert sp pipe (id, { uri := uri, strat := .default, pipe := pipe })
  | .update pipe id uri s => amInsert sp pipe (id, { uri := uri, strat := s, pipe := pipe })
  | .removePipe pipe => amRemove sp pipe

/-- an operation that would give a pipe an identity currently held by ANOTHER live pipe -/
def collides (sp : Spec) : MapOp → Bool
  | .add id pipe _ => sp.any fun e => e.1 != pipe && e.2.1 == id
  | .update pipe id _ _ => sp.any fun e => e.1 != pipe && e.2.1 == id
  | .removePipe _ => false

def collisionFree : Spec → List MapOp → Bool
  | _, [] => true
  | sp, op :: rest => !collides sp op && collisionFree (specApply sp op) rest

end C11

section
open C11

theorem RouterInv.run (h : List MapOp) (m : RouterMap) (sp : Spec) (hinv : RouterInv m sp) :
    RouterInv (h.foldl applyOp m) (h.foldl specApply sp) := by
  refine List.foldl_rel hinv fun op _ m sp hinv => ?_
  cases op with
  | add id pipe uri =>
    rw [applyOp, addPeer_eq]
    exact RouterInv.insert m sp pipe id _ rfl hinv
  | update pipe id uri s => exact RouterInv.insert m sp pipe id _ rfl hinv
  | removePipe pipe => exact RouterInv.removeByPipe m sp pipe hinv

theorem RouterInvCF.run : ∀ (h : List MapOp) (m : RouterMap) (sp : Spec), RouterInvCF m sp → collisionFree sp h = true →
    RouterInvCF (h.foldl applyOp m) (h.foldl specApply sp)
  | [], _, _, hcf, _ => hcf
  | op :: rest, m, sp, hcf, hfree => by
    simp only [collisionFree, Bool.and_eq_true, Bool.not_eq_true'] at hfree
    refine RouterInvCF.run rest _ _ ?_ hfree.2
    cases op with
    | add id pipe uri =>
      rw [applyOp, addPeer_eq]
      exact RouterInvCF.insert m sp pipe id _ rfl hcf (noCollision_of_any sp pipe id hfree.1)
    | update pipe id uri s =>
      exact RouterInvCF.insert m sp pipe id _ rfl hcf (noCollision_of_any sp pipe id hfree.1)
    | removePipe pipe => exact RouterInvCF.removeByPipe m sp pipe hcf

end

theorem normFlags_cons_of_ne_nil (a : Frame) (l : List Frame) (h : l ≠ []) :
    normFlags (a :: l) = { a with more := true } :: normFlags l := by
  cases l with
  | nil => exact absurd rfl h
  | cons b l => rfl

theorem clearLastMore_cons_of_ne_nil (a : Frame) (l : List Frame) (h : l ≠ []) :
    clearLastMore (a :: l) = a :: clearLastMore l := by
  cases l with
  | nil => exact absurd rfl h
  | cons b l => rfl

theorem normFlags_ne_nil (l : List Frame) (h : l ≠ []) : normFlags l ≠ [] := by
  match l with
  | [] => exact absurd rfl h
  | [f] => simp [normFlags]
  | f :: g :: rest => simp [normFlags]

theorem normFlags_idem : ∀ l : List Frame, normFlags (normFlags l) = normFlags l
  | [] => rfl
  | [f] => rfl
  | f :: g :: rest => by
    have ih := normFlags_idem (g :: rest)
    have hne : normFlags (g :: rest) ≠ [] := normFlags_ne_nil _ (by simp)
    rw [normFlags_cons_of_ne_nil f (g :: rest) (by simp), normFlags_cons_of_ne_nil _ _ hne, ih]

theorem clearLastMore_normFlags : ∀ l : List Frame, clearLastMore (normFlags l) = normFlags l
  | [] => rfl
  | [f] => rfl
  | f :: g :: rest => by
    have ih := clearLastMore_normFlags (g :: rest)
    have hne : normFlags (g :: rest) ≠ [] := normFlags_ne_nil _ (by simp)
    rw [normFlags_cons_of_ne_nil f (g :: rest) (by simp), clearLastMore_cons_of_ne_nil _ _ hne, ih]

theorem clearLastMore_of_normFlags_eq (l : List Frame) (h : normFlags l = l) : clearLastMore l = l := by
  rw [← h, clearLastMore_normFlags]

theorem map_payload_normFlags : ∀ l : List Frame, (normFlags l).map (·.payload) = l.map (·.payload)
  | [] => rfl
  | [f] => rfl
  | f :: g :: rest => by
    have ih := map_payload_normFlags (g :: rest)
    rw [normFlags_cons_of_ne_nil f (g :: rest) (by simp), List.map_cons, ih]
    rfl

theorem dealerPrepareSend_auto {payload : List Frame} (hne : payload ≠ []) :
    dealerPrepareSend false payload = emptyFrame true :: normFlags payload := by
  have he := List.isEmpty_eq_false_iff.2 hne
  simp only [dealerPrepareSend, dealerAutoEncode, he, Bool.false_eq_true, if_false]
  exact normFlags_cons_of_ne_nil _ _ hne

theorem repExtractPrefix_delim (fs : List Frame) :
    repExtractPrefix (emptyFrame true :: fs) = ([emptyFrame true], fs) := by
  simp [repExtractPrefix, emptyFrame, List.findIdx?_cons]

theorem repReplyWire_delim {reply : List Frame} (hne : reply ≠ []) :
    repReplyWire [emptyFrame true] reply = emptyFrame true :: normFlags reply := by
  rw [repReplyWire, List.isEmpty_eq_false_iff.2 hne]
  exact normFlags_cons_of_ne_nil _ _ hne

theorem routerToApp_normFlags (id : List UInt8) {payload : List Frame} (hne : payload ≠ []) :
    routerToApp id (normFlags payload) = normFlags ({ payload := id, more := true, command := false } :: payload) := by
  have hn := normFlags_ne_nil payload hne
  rw [routerToApp, List.isEmpty_eq_false_iff.2 hn, clearLastMore_cons_of_ne_nil _ _ hn, clearLastMore_normFlags,
    normFlags_cons_of_ne_nil _ _ hne]
  rfl

end Rzmq
