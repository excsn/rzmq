import RzmqModel.Model.Hwm
import RzmqModel.Proofs.Session
/-!
The guarded send side of `Model/Hwm.lean` as a restriction of the send path of `Model/Session.lean` (`HwmSend.run_path`):
its invariants are those of `SendPath.Step`, plus the bound on the pipe that the guard adds.  The two decision functions
are one: `recvOnEmpty` is an instance of `sendOnFull`.
-/
namespace Rzmq

/-- `true`: the `send_multipart_owned` flavour; the next arrival takes the place of the next free slot -/
theorem recvOnEmpty_eq_sendOnFull (t : Timeo) (arrival : Option Nat) :
    recvOnEmpty t arrival = sendOnFull none true t arrival := by
  cases t <;> rfl

/-- A run of the guarded send side is a run of the send path that stands still at some events and accepts a message
only while the pipe has room: what such steps of the send path keep holds of `path` throughout. -/
theorem HwmSend.run_path {P : SendPath → Prop}
    (hstep : ∀ (t t' : SendPath) e, t.Step e t' → (∀ m, e = .accept m → t.pipe.length < max t.cfg.sndhwm 1) → P t → P t')
    (s : HwmSend) (evs : List HwmEv) (h : P s.path) : P (s.run evs).path := by
  refine List.foldlRecOn (motive := fun t : HwmSend => P t.path) evs HwmSend.step h fun t ht ev _ => ?_
  fun_cases HwmSend.step t ev with
  | case1 m hroom => exact hstep _ _ _ (t.path.step_sound (.accept m)) (fun _ _ => hroom) ht
  | case4 e hne => exact hstep _ _ _ (t.path.step_sound e) (fun m hm => absurd hm (hne m)) ht
  | _ => exact ht

end Rzmq
