import RzmqModel.Model.Record
/-!
Lemmas about the record layer (C18).

The receiver opens a record only in its own slot, so what it accepts is a run `j, j+1, ..` of record numbers
(`acceptedRecords_range'`); a run of honest records is accepted whole and the receiver goes on behind it
(`acceptedRecords_honest_append`).  Each mutation of an honest stream is an honest prefix followed by something
that does not open in the next slot: `accepted_honestStream_then_bad` is what C18 applies case by case.
-/
namespace Rzmq

theorem chunksOfLimit_flatten (limit fuel : Nat) (p : List UInt8) (hl : 0 < limit) (h : p.length < fuel) :
    (chunksOfLimit limit fuel p).flatten = p := by
  -- case1: no fuel; case2: `p` empty; case3: `p` is one piece; case4: a piece is cut off
  fun_induction chunksOfLimit limit fuel p with
  | case1 p => omega
  | case2 fuel p he => rw [List.isEmpty_iff.mp he]; rfl
  | case3 fuel p he hle => rw [List.flatten_cons, List.flatten_nil, List.append_nil]
  | case4 fuel p he hle ih =>
    rw [List.flatten_cons, ih (by rw [List.length_drop]; omega), List.take_append_drop]

theorem chunksOfLimit_mem (limit fuel : Nat) (p : List UInt8) (hl : 0 < limit) :
    ∀ c ∈ chunksOfLimit limit fuel p, c ≠ [] ∧ c.length ≤ limit := by
  fun_induction chunksOfLimit limit fuel p with
  | case1 p => nofun
  | case2 fuel p he => nofun
  | case3 fuel p he hle =>
    intro c hc
    cases List.mem_singleton.mp hc
    exact ⟨fun h => he (h ▸ rfl), hle⟩
  | case4 fuel p he hle ih =>
    intro c hc
    rcases List.mem_cons.mp hc with rfl | hc
    · have hlen : (p.take limit).length = limit := by rw [List.length_take]; omega
      exact ⟨fun h => by rw [h] at hlen; exact absurd hlen.symm (Nat.ne_of_gt hl), Nat.le_of_eq hlen⟩
    · exact ih c hc

theorem recordPieces_mem (limit : Nat) (hl : 0 < limit) (p : List UInt8) :
    ∀ c ∈ recordPieces limit p, c ≠ [] ∧ c.length ≤ limit := by
  rw [recordPieces, show max limit 1 = limit by omega]
  exact chunksOfLimit_mem limit _ p hl

theorem acceptedRecords_honest_append (m : Nat) :
    ∀ (j : Nat) (rest : List WireRec),
      acceptedRecords j ((List.range' j m).map .honest ++ rest)
        = List.range' j m ++ acceptedRecords (j + m) rest := by
  induction m with
  | zero => intro j rest; rfl
  | succ m ih =>
    intro j rest
    have ho : opens j (.honest j) = true := by simp only [opens, beq_self_eq_true]
    rw [List.range'_succ, List.map_cons, List.cons_append, acceptedRecords, if_pos ho, ih (j + 1) rest,
      List.cons_append, Nat.add_assoc, Nat.add_comm 1 m]

theorem acceptedRecords_range' : ∀ (stream : List WireRec) (j : Nat),
    ∃ k, acceptedRecords j stream = List.range' j k := by
  intro stream
  induction stream with
  | nil => intro j; exact ⟨0, rfl⟩
  | cons r rest ih =>
    intro j
    unfold acceptedRecords
    by_cases ho : opens j r = true
    · rw [if_pos ho]
      obtain ⟨k, hk⟩ := ih (j + 1)
      exact ⟨k + 1, by rw [hk, List.range'_succ]⟩
    · rw [if_neg ho]; exact ⟨0, rfl⟩

theorem flatten_map_getD_range (pieces : List (List UInt8)) :
    ∀ k, ((List.range k).map fun i => pieces.getD i []).flatten = (pieces.take k).flatten := by
  intro k
  induction k with
  | zero => rfl
  | succ k ih =>
    rw [List.range_succ, List.map_append, List.flatten_append, ih, List.take_add_one,
      List.flatten_append]
    congr 1
    simp only [List.map_cons, List.map_nil, List.flatten_cons, List.flatten_nil, List.append_nil,
      List.getD_eq_getElem?_getD]
    cases pieces[k]? with
    | none => rfl
    | some x => simp only [List.flatten_cons, List.flatten_nil, List.append_nil,
        Option.getD_some, Option.toList_some]

theorem honestStream_length (n : Nat) : (honestStream n).length = n := by
  simp only [honestStream, List.length_map, List.length_range]

theorem honestStream_take (n r : Nat) : (honestStream n).take r = honestStream (min r n) := by
  simp only [honestStream, ← List.map_take, List.take_range]

theorem honestStream_drop (n r : Nat) :
    (honestStream n).drop r = (List.range' r (n - r)).map .honest := by
  rw [honestStream, List.range_eq_range', ← List.map_drop, List.drop_range']
  simp only [Nat.mul_one, Nat.zero_add]

theorem honestStream_getElem? (n r : Nat) (h : r < n) : (honestStream n)[r]? = some (.honest r) := by
  simp only [honestStream, List.getElem?_map, List.getElem?_range h, Option.map_some]

theorem honestStream_getElem?_none (n r : Nat) (h : n ≤ r) : (honestStream n)[r]? = none := by
  rw [List.getElem?_eq_none_iff, honestStream_length]; exact h

theorem mutate_swap_none (s : List WireRec) (r : Nat) (h : s[r + 1]? = none) : mutate s (.swap r) = s := by
  simp only [mutate, h]
  cases s[r]? <;> rfl

theorem accepted_honestStream_append (m : Nat) (rest : List WireRec) :
    acceptedRecords 0 (honestStream m ++ rest) = List.range m ++ acceptedRecords m rest := by
  rw [honestStream, List.range_eq_range', acceptedRecords_honest_append, Nat.zero_add]

theorem acceptedRecords_honestStream (n : Nat) : acceptedRecords 0 (honestStream n) = List.range n := by
  have h := accepted_honestStream_append n []
  rwa [List.append_nil, acceptedRecords, List.append_nil] at h

/-- honest records 0..m-1, then something that does not open in slot m: the receiver stops at m -/
theorem accepted_honestStream_then_bad (m : Nat) (x : WireRec) (rest : List WireRec)
    (hx : opens m x = false) :
    acceptedRecords 0 (honestStream m ++ x :: rest) = List.range m := by
  rw [accepted_honestStream_append, acceptedRecords, hx, if_neg Bool.false_ne_true, List.append_nil]

theorem opens_honest_ne (j i : Nat) (h : i ≠ j) : opens j (.honest i) = false := by
  simp only [opens, beq_eq_false_iff_ne, ne_eq]; exact h

end Rzmq
