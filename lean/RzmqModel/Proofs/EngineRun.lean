import RzmqModel.Model.Engine
import RzmqModel.Proofs.EngineCodec
import RzmqModel.Proofs.Multipart
/-!
The engine model between two reads (C02, C04, C07).

Everything about one `step` is proved through its case principle (`fun_cases step`: one goal per branch, the guards as
hypotheses; unfolding `step` and splitting it is an order of magnitude dearer): a step lowers `stepMeasure`, commutes
with bytes appended to the accumulator, uses the clock only to stamp `lastActivity`, keeps `BatchInv`,
closes on every error, and is disabled only on a short accumulator. `step_induction` turns the measure into induction
along the steps the engine takes; `runQ` (`run` with the measure as fuel) is what `onNetworkBytes` computes, and cut
independence (`runQ_append`) and clock independence (`runQ_clock`) are such inductions. `run_inv` .. `feedAll_inv`
lift an invariant of `step` to every sequence of reads; they need no `WellBehaved`, which comes in with the measure
(that a run ends because nothing is enabled, hence quiescence, cut and clock independence).  The file ends with the run
that shows C07's accumulator bound false without its `frameLimit` hypothesis.
-/
namespace Rzmq

variable {spec : AbsSpec} {cfg : Cfg}

def mechBudget : Mech → Nat
  | .null => 0
  | .plain .clientSendHello => 1
  | .plain .serverExpectHello => 1
  | .plain .serverSendWelcome => 1
  | .plain _ => 0
  | .abs _ _ n => 8 - n

/- An upper bound on the steps still to come.  Every step that does not consume bytes is one of a handful of one-shot
steps, and a phase's constant must exceed what the phases after it can still spend: security at most 8 tokens and its
completion (+ 2 > ready's 1), the greeting its two one-shot stages and then security's 8 + 2 (hence 11). -/
def stepMeasure (s : Eng) : Nat :=
  match s.phase with
  | .closed => 0
  | .greeting => s.acc.length + (if s.revisionSent then 0 else 1) + (if s.version.isNone then 1 else 0) + 11
  | .security => s.acc.length + mechBudget s.mech + 2
  | .ready => s.acc.length + 1
  | .v2Identity => s.acc.length + (if s.v2IdentitySent then 0 else 1) + 1
  | .data => s.acc.length + 1

theorem mechBudget_le (m : Mech) : mechBudget m ≤ 8 := by
  unfold mechBudget; split <;> omega

theorem produceToken_budget (hw : WellBehaved spec) {m m' : Mech} {t : Bytes}
    (h : produceToken spec cfg m = (some t, m')) : mechBudget m' < mechBudget m := by
  revert h
  fun_cases produceToken spec cfg m <;> intro h <;> cases h
  · decide
  · decide
  · rename_i k hist n hp
    -- a well-behaved mechanism produces nothing from its eighth token on
    have : n < 8 := Nat.lt_of_not_le fun hn => by rw [hw k cfg.isServer hist n hn] at hp; cases hp
    simp only [mechBudget]
    omega

theorem processToken_budget {m m' : Mech} {tok : Bytes}
    (h : processToken spec cfg m tok = .ok m') : mechBudget m' ≤ mechBudget m := by
  revert h
  fun_cases processToken spec cfg m tok <;> intro h <;> cases h <;> simp [mechBudget]

theorem stepMeasure_pos {s : Eng} (h : s.phase ≠ .closed) : 0 < stepMeasure s := by
  unfold stepMeasure
  split <;> first | contradiction | omega

theorem step_stepMeasure (hw : WellBehaved spec) {t : Nat} {s s' : Eng} {o : Out}
    (h : step spec cfg t s = some (s', o)) : stepMeasure s' < stepMeasure s := by
  revert s' o
  fun_cases step spec cfg t s <;> rintro s' o ⟨⟩
  -- the failing transitions end at measure 0
  all_goals try exact stepMeasure_pos (by simp [*])
  -- the others: with what the branch knows about the bytes consumed and the mechanism's budget, both measures are
  -- evaluated and compared
  all_goals
    try have hr := decodeBuffer_rest_lt ‹_›
    try have hp := produceToken_budget hw ‹_›
    try have hq := processToken_budget ‹_›
    try have hm := mechBudget_le ‹Mech›
    have hb := mechBudget_le s.mech
    simp +zetaDelta [stepMeasure, Gen.GREETING_LENGTH, Gen.V2_GREETING_LENGTH, Gen.REVISION_OFFSET, *] at *
  all_goals
    try simp only [*, ↓reduceIte, Bool.false_eq_true]
    try split
    all_goals omega

section ListHelpers
variable {α : Type} {a b : List α} {n : Nat} {d : α}

theorem app_len_lt (h : ¬ a.length < n) : ((a ++ b).length < n) = False := by
  simp only [List.length_append, eq_iff_iff, iff_false]; omega

theorem headD_app (h : 0 < a.length) : (a ++ b).headD d = a.headD d := by
  cases a with
  | nil => cases h
  | cons x xs => rfl

theorem headD_drop_app (h : n < a.length) : (a.drop n ++ b).headD d = (a.drop n).headD d :=
  headD_app (by rw [List.length_drop]; omega)
end ListHelpers

def addAcc (s : Eng) (b : Bytes) : Eng := { s with acc := s.acc ++ b }

theorem addAcc_nil (s : Eng) : addAcc s [] = s := by
  cases s; simp [addAcc]

theorem addAcc_addAcc (s : Eng) (a b : Bytes) : addAcc (addAcc s a) b = addAcc s (a ++ b) := by
  simp [addAcc, List.append_assoc]

theorem onNetworkBytes_def (t : Nat) (s : Eng) (d : Bytes) :
    onNetworkBytes spec cfg t s d = run spec cfg t (fuelFor (addAcc s d)) (addAcc s d) := rfl

/-- `step` looks at the accumulator only through length tests, a fixed-length prefix and `decodeBuffer`, all of
which are stable under appending once they have answered; so bytes that arrive later just ride along. -/
theorem step_append {t : Nat} {s s' : Eng} {o : Out}
    (h : step spec cfg t s = some (s', o)) (b : Bytes) :
    step spec cfg t (addAcc s b) = some (addAcc s' b, o) := by
  revert s' o
  fun_cases step spec cfg t s <;> rintro s' o ⟨⟩
  all_goals
    first
      | have e := decodeBuffer_append_frame b ‹_›
      | have e := decodeBuffer_append_error b ‹_›
      | skip
    try simp +zetaDelta only [Gen.GREETING_LENGTH, Gen.V2_GREETING_LENGTH, Gen.SIGNATURE_LENGTH, Gen.REVISION_OFFSET,
      Gen.V2_SOCKET_TYPE_OFFSET] at *
    simp (disch := omega) only [step, addAcc, *, ↓reduceIte, Bool.false_eq_true, app_len_lt, headD_drop_app, headD_app,
      List.take_append_of_le_length, List.drop_append_of_le_length, Gen.GREETING_LENGTH, Gen.V2_GREETING_LENGTH,
      Gen.SIGNATURE_LENGTH, Gen.REVISION_OFFSET, Gen.V2_SOCKET_TYPE_OFFSET, fail, enterReady]

def eraseP (p : Eng × Out) : Eng × Out := (p.1.eraseClock, p.2)

theorem step_setClock (t t' a : Nat) (s : Eng) :
    (step spec cfg t' { s with lastActivity := a }).map eraseP = (step spec cfg t s).map eraseP := by
  fun_cases step spec cfg t s
  -- no guard reads `lastActivity`, so `step` on the changed state takes the same branch (first `simp`); the two results
  -- differ at most in the stamp, which `eraseP` removes (second)
  all_goals
    simp +zetaDelta only [step, *, ↓reduceIte, Bool.false_eq_true]
    try simp [eraseP, Eng.eraseClock, fail, enterReady, *]

def ClockEq (s1 s2 : Eng) : Prop := s1.eraseClock = s2.eraseClock

theorem ClockEq.eq_with {s1 s2 : Eng} (h : ClockEq s1 s2) : s2 = { s1 with lastActivity := s2.lastActivity } := by
  cases s1; cases s2
  simp only [ClockEq, Eng.eraseClock, Eng.mk.injEq] at h ⊢
  simp [h]

theorem stepMeasure_clock {s1 s2 : Eng} (h : ClockEq s1 s2) : stepMeasure s1 = stepMeasure s2 := by
  rw [h.eq_with]; rfl

theorem addAcc_clock {s1 s2 : Eng} (h : ClockEq s1 s2) (b : Bytes) : ClockEq (addAcc s1 b) (addAcc s2 b) := by
  rw [h.eq_with]; rfl

theorem step_clock {s1 s2 : Eng} (h : ClockEq s1 s2) (t1 t2 : Nat) :
    (step spec cfg t1 s1).map eraseP = (step spec cfg t2 s2).map eraseP := by
  rw [h.eq_with]
  exact (step_setClock t1 t2 _ s1).symm

theorem step_clock_none {s1 s2 : Eng} (h : ClockEq s1 s2) {t1 t2 : Nat}
    (hs : step spec cfg t1 s1 = none) : step spec cfg t2 s2 = none := by
  have := step_clock (spec := spec) (cfg := cfg) h t1 t2
  rw [hs] at this
  simpa using this.symm

theorem step_clock_some {s1 s2 s1' : Eng} {o : Out} (h : ClockEq s1 s2) {t1 : Nat} (t2 : Nat)
    (hs : step spec cfg t1 s1 = some (s1', o)) : ∃ s2', step spec cfg t2 s2 = some (s2', o) ∧ ClockEq s1' s2' := by
  have := step_clock (spec := spec) (cfg := cfg) h t1 t2
  rw [hs] at this
  cases hs2 : step spec cfg t2 s2 with
  | none => simp [hs2] at this
  | some p =>
    simp only [hs2, Option.map_some, Option.some.injEq, eraseP, Prod.mk.injEq] at this
    exact ⟨p.1, by rw [this.2], this.1⟩

theorem quiescent_of_step_none {t : Nat} {s : Eng} (h : step spec cfg t s = none) :
    Quiescent spec cfg s :=
  fun _ => step_clock_none rfl h

theorem Quiescent.init : Quiescent spec cfg Eng.init := by
  intro t
  simp [step, Eng.init, Gen.SIGNATURE_LENGTH]

/-- what the frame-count guard of the data phase lets through (`Gen.dataFrameLimitChecked = 1`: the guard is there) -/
theorem lt_of_frameCount_guard {n : Nat}
    (h : ¬ (Gen.dataFrameLimitChecked == 1 && decide (Gen.MAX_FRAMES_PER_MESSAGE ≤ n)) = true) :
    n < Gen.MAX_FRAMES_PER_MESSAGE := by
  simpa [Gen.dataFrameLimitChecked] using h

theorem step_peerError {t : Nat} {s s' : Eng} {o : Out} {e : ErrClass}
    (h : step spec cfg t s = some (s', o)) (he : AppAct.peerError e ∈ o.app) : s'.phase = .closed := by
  revert s' o
  fun_cases step spec cfg t s <;> rintro s' o ⟨⟩ he
  -- either the transition is a `fail`, or it does not emit a `peerError`
  all_goals first
    | rfl
    | simp at he

/-- What the accumulator holds when nothing is enabled: a greeting short of its next stage, or the beginning of one frame
that the decoder is still waiting for. -/
theorem step_none_bound {t : Nat} {s : Eng} {m : Nat}
    (hm : cfg.maxMsgSize = (m : Int))
    (h : step spec cfg t s = none) (hp : s.panicked = false) (hc : s.phase ≠ .closed)
    (hs : s.sealed = false) :
    s.acc.length < max 64 (9 + max m Gen.HANDSHAKE_FRAME_LIMIT) ∧ (s.phase = .data → s.acc.length < 9 + m) := by
  have pre : ∀ {n : Nat}, s.phase ≠ .data → s.acc.length < n → n ≤ 64 ∨ n = 9 + max m Gen.HANDSHAKE_FRAME_LIMIT →
      s.acc.length < max 64 (9 + max m Gen.HANDSHAKE_FRAME_LIMIT) ∧ (s.phase = .data → s.acc.length < 9 + m) :=
    fun hd hl hn => ⟨by omega, fun h => absurd h hd⟩
  have hs' : ∀ {src}, decodeBuffer (hsLimit cfg) src = .needMore → src.length < 9 + max m Gen.HANDSHAKE_FRAME_LIMIT :=
    fun h => needMore_bounded' _ _ (hsLimit_of_nat hm ▸ h)
  revert h
  fun_cases step spec cfg t s <;> intro h <;> try cases h
  -- the decoder never answers `panic`
  all_goals try exact absurd ‹_ = Dec.panic› (decodeBuffer_ne_panic _ _)
  · cases hp.symm.trans ‹s.panicked = true›
  · exact absurd ‹_› hc
  -- greeting: short of the signature, the revision byte, the ZMTP/2.0 greeting, the ZMTP/3.x greeting
  iterate 4 exact pre (by simp [*]) ‹_› (.inl (by decide))
  -- security, ready, v2Identity: a frame incomplete under the handshake limit
  iterate 3 exact pre (by simp [*]) (hs' ‹_›) (.inr rfl)
  · cases hs.symm.trans ‹s.sealed = true›
  · have hb := needMore_bounded' m s.acc (hm ▸ ‹_›)
    exact ⟨by omega, fun _ => hb⟩

theorem Out.append_def (a b : Out) : a ++ b = { net := a.net ++ b.net, app := a.app ++ b.app } := rfl
@[simp] theorem Out.empty_append (o : Out) : ({} : Out) ++ o = o := by
  cases o; simp [Out.append_def]
@[simp] theorem Out.append_empty (o : Out) : o ++ ({} : Out) = o := by
  cases o; simp [Out.append_def]
theorem Out.append_assoc (a b c : Out) : a ++ b ++ c = a ++ (b ++ c) := by
  simp [Out.append_def]
@[simp] theorem Out.app_append (a b : Out) : (a ++ b).app = a.app ++ b.app := rfl
@[simp] theorem Out.app_empty : ({} : Out).app = [] := rfl

theorem run_none {t : Nat} {s : Eng} (h : step spec cfg t s = none) (f : Nat) :
    run spec cfg t f s = (s, {}) := by
  cases f with
  | zero => rfl
  | succ f => simp only [run, h]

theorem run_some {t : Nat} {s s' : Eng} {o : Out} (h : step spec cfg t s = some (s', o)) (f : Nat) :
    run spec cfg t (f + 1) s = ((run spec cfg t f s').1, o ++ (run spec cfg t f s').2) := by
  simp only [run, h]

theorem step_closed {t : Nat} {s : Eng} (h : s.phase = .closed) : step spec cfg t s = none := by
  simp only [step, h, ite_self]

theorem run_closed {t : Nat} {s : Eng} (h : s.phase = .closed) (f : Nat) :
    run spec cfg t f s = (s, {}) := run_none (step_closed h) f

theorem onNetworkBytes_closed {t : Nat} {s : Eng} (h : s.phase = .closed) (d : Bytes) :
    onNetworkBytes spec cfg t s d = (addAcc s d, {}) :=
  (onNetworkBytes_def t s d).trans (run_closed (s := addAcc s d) h _)

theorem step_induction (hw : WellBehaved spec) (t : Nat) {P : Eng → Prop}
    (stop : ∀ s, step spec cfg t s = none → P s)
    (next : ∀ s s' o, step spec cfg t s = some (s', o) → P s' → P s) (s : Eng) : P s := by
  induction hn : stepMeasure s using Nat.strongRecOn generalizing s with
  | ind n ih =>
    cases hs : step spec cfg t s with
    | none => exact stop s hs
    | some p => exact next s p.1 p.2 hs (ih _ (hn ▸ step_stepMeasure hw hs) p.1 rfl)

/-- `run` with exactly the fuel the measure asks for -/
def runQ (spec : AbsSpec) (cfg : Cfg) (t : Nat) (s : Eng) : Eng × Out := run spec cfg t (stepMeasure s) s

/-- `run` stops because nothing is enabled, not for lack of fuel -/
theorem run_eq_runQ (hw : WellBehaved spec) (t : Nat) (s : Eng) :
    ∀ f, stepMeasure s ≤ f → run spec cfg t f s = runQ spec cfg t s := by
  induction s using step_induction (cfg := cfg) hw t with
  | stop s hs => intro f _; rw [run_none hs, runQ, run_none hs]
  | next s s' o hs ih =>
    intro f hf
    have hm := step_stepMeasure hw hs
    obtain ⟨f', rfl⟩ : ∃ f', f = f' + 1 := ⟨f - 1, by omega⟩
    obtain ⟨k, hk⟩ : ∃ k, stepMeasure s = k + 1 := ⟨stepMeasure s - 1, by omega⟩
    rw [runQ, hk, run_some hs, run_some hs, ih f' (by omega), ih k (by omega)]

theorem runQ_none {t : Nat} {s : Eng} (h : step spec cfg t s = none) : runQ spec cfg t s = (s, {}) :=
  run_none h _

theorem runQ_some (hw : WellBehaved spec) {t : Nat} {s s' : Eng} {o : Out}
    (h : step spec cfg t s = some (s', o)) :
    runQ spec cfg t s = ((runQ spec cfg t s').1, o ++ (runQ spec cfg t s').2) := by
  have hm := step_stepMeasure hw h
  obtain ⟨k, hk⟩ : ∃ k, stepMeasure s = k + 1 := ⟨stepMeasure s - 1, by omega⟩
  rw [runQ, hk, run_some h, run_eq_runQ hw t s' k (by omega)]

theorem stepMeasure_le_fuelFor (s : Eng) : stepMeasure s ≤ fuelFor s := by
  have := mechBudget_le s.mech
  unfold stepMeasure fuelFor
  split <;> (try split) <;> (try split) <;> omega

theorem onNetworkBytes_eq (hw : WellBehaved spec) (t : Nat) (s : Eng) (d : Bytes) :
    onNetworkBytes spec cfg t s d = runQ spec cfg t (addAcc s d) :=
  (onNetworkBytes_def t s d).trans (run_eq_runQ hw t _ _ (stepMeasure_le_fuelFor _))

theorem runQ_quiescent (hw : WellBehaved spec) (t : Nat) (s : Eng) :
    step spec cfg t (runQ spec cfg t s).1 = none := by
  induction s using step_induction (cfg := cfg) hw t with
  | stop s hs => rw [runQ_none hs]; exact hs
  | next s s' o hs ih => rw [runQ_some hw hs]; exact ih

theorem runQ_append (hw : WellBehaved spec) (t : Nat) (b : Bytes) (s : Eng) :
    runQ spec cfg t (addAcc s b) =
      ((runQ spec cfg t (addAcc (runQ spec cfg t s).1 b)).1,
       (runQ spec cfg t s).2 ++ (runQ spec cfg t (addAcc (runQ spec cfg t s).1 b)).2) := by
  induction s using step_induction (cfg := cfg) hw t with
  | stop s hs => rw [runQ_none hs, Out.empty_append]
  | next s s' o hs ih => rw [runQ_some hw (step_append hs b), ih, runQ_some hw hs, Out.append_assoc]

theorem runQ_clock (hw : WellBehaved spec) (t1 t2 : Nat) (s1 : Eng) : ∀ {s2}, ClockEq s1 s2 →
    ClockEq (runQ spec cfg t1 s1).1 (runQ spec cfg t2 s2).1 ∧ (runQ spec cfg t1 s1).2 = (runQ spec cfg t2 s2).2 := by
  induction s1 using step_induction (cfg := cfg) hw t1 with
  | stop s1 hs =>
    intro s2 h
    rw [runQ_none hs, runQ_none (step_clock_none h hs)]
    exact ⟨h, rfl⟩
  | next s1 s1' o hs ih =>
    intro s2 h
    obtain ⟨s2', hs2, h'⟩ := step_clock_some h t2 hs
    rw [runQ_some hw hs, runQ_some hw hs2]
    exact ⟨(ih h').1, congrArg (o ++ ·) (ih h').2⟩

theorem quiescent_onNetworkBytes (hw : WellBehaved spec) (t : Nat) (s : Eng) (d : Bytes) :
    Quiescent spec cfg (onNetworkBytes spec cfg t s d).1 := by
  rw [onNetworkBytes_eq hw]
  exact quiescent_of_step_none (runQ_quiescent hw t _)

theorem onNetworkBytes_nil (hw : WellBehaved spec) (t : Nat) {s : Eng} (hq : Quiescent spec cfg s) :
    onNetworkBytes spec cfg t s [] = (s, {}) := by
  rw [onNetworkBytes_eq hw, addAcc_nil, runQ_none (hq t)]

theorem onNetworkBytes_append (hw : WellBehaved spec) (t : Nat) (s : Eng) (a b : Bytes) :
    onNetworkBytes spec cfg t s (a ++ b) =
      ((onNetworkBytes spec cfg t (onNetworkBytes spec cfg t s a).1 b).1,
       (onNetworkBytes spec cfg t s a).2 ++ (onNetworkBytes spec cfg t (onNetworkBytes spec cfg t s a).1 b).2) := by
  simp only [onNetworkBytes_eq hw]
  rw [← addAcc_addAcc, runQ_append hw]

theorem onNetworkBytes_clock (hw : WellBehaved spec) (t1 t2 : Nat) {s1 s2 : Eng} (h : ClockEq s1 s2) (d : Bytes) :
    ClockEq (onNetworkBytes spec cfg t1 s1 d).1 (onNetworkBytes spec cfg t2 s2 d).1
      ∧ (onNetworkBytes spec cfg t1 s1 d).2 = (onNetworkBytes spec cfg t2 s2 d).2 := by
  rw [onNetworkBytes_eq hw, onNetworkBytes_eq hw]
  exact runQ_clock hw t1 t2 _ (addAcc_clock h d)

theorem feedAll_same_clock (hw : WellBehaved spec) (t : Nat) (chunks : List Bytes) :
    ∀ s, Quiescent spec cfg s →
    feedAll spec cfg s (chunks.map fun c => (t, c)) = onNetworkBytes spec cfg t s chunks.flatten := by
  induction chunks with
  | nil => intro s hq; simp only [List.map_nil, feedAll, List.flatten_nil]; rw [onNetworkBytes_nil hw t hq]
  | cons c cs ih =>
    intro s hq
    simp only [List.map_cons, feedAll, List.flatten_cons]
    rw [ih _ (quiescent_onNetworkBytes hw t s c), onNetworkBytes_append hw]

theorem feedAll_clock (hw : WellBehaved spec) (t : Nat) (reads : List (Nat × Bytes)) : ∀ {s1 s2}, ClockEq s1 s2 →
    ClockEq (feedAll spec cfg s1 reads).1 (feedAll spec cfg s2 ((reads.map (·.2)).map fun c => (t, c))).1
      ∧ (feedAll spec cfg s1 reads).2 = (feedAll spec cfg s2 ((reads.map (·.2)).map fun c => (t, c))).2 := by
  induction reads with
  | nil => intro s1 s2 h; exact ⟨h, rfl⟩
  | cons r rs ih =>
    intro s1 s2 h
    obtain ⟨h1, h2⟩ := onNetworkBytes_clock (cfg := cfg) hw r.1 t h r.2
    simp only [List.map_cons, feedAll, h2]
    exact ⟨(ih h1).1, congrArg _ (ih h1).2⟩

theorem quiescent_feedAll (hw : WellBehaved spec) (reads : List (Nat × Bytes)) :
    ∀ s, Quiescent spec cfg s → Quiescent spec cfg (feedAll spec cfg s reads).1 := by
  induction reads with
  | nil => intro s hq; exact hq
  | cons r rs ih =>
    intro s _
    simp only [feedAll]
    exact ih _ (quiescent_onNetworkBytes hw _ _ _)

section Lift
/-! An invariant of the state and of the application actions emitted so far, kept by every `step`, holds after
every sequence of reads. -/
variable {P : Eng → List AppAct → Prop}
  (hacc : ∀ s e d, P s e → P (addAcc s d) e)
  (hstep : ∀ t s e s' o, P s e → step spec cfg t s = some (s', o) → P s' (e ++ o.app))
include hstep

theorem run_inv (t fuel : Nat) :
    ∀ s e, P s e → P (run spec cfg t fuel s).1 (e ++ (run spec cfg t fuel s).2.app) := by
  induction fuel with
  | zero => intro s e h; simpa [run] using h
  | succ n ih =>
    intro s e h
    cases hs : step spec cfg t s with
    | none => simpa [run_none hs] using h
    | some p =>
      have := ih p.1 _ (hstep t s e p.1 p.2 h hs)
      simpa [run_some hs, List.append_assoc] using this

include hacc

theorem onNetworkBytes_inv (t : Nat) (s : Eng) (e : List AppAct) (d : Bytes) (h : P s e) :
    P (onNetworkBytes spec cfg t s d).1 (e ++ (onNetworkBytes spec cfg t s d).2.app) :=
  onNetworkBytes_def (spec := spec) (cfg := cfg) t s d ▸ run_inv hstep t _ _ _ (hacc s e d h)

theorem feedAll_inv (reads : List (Nat × Bytes)) :
    ∀ s e, P s e → P (feedAll spec cfg s reads).1 (e ++ (feedAll spec cfg s reads).2.app) := by
  induction reads with
  | nil => intro s e h; simpa [feedAll] using h
  | cons r rest ih =>
    intro s e h
    have h2 := ih _ _ (onNetworkBytes_inv hacc hstep r.1 s e r.2 h)
    simpa [feedAll, List.append_assoc] using h2

end Lift

/-- The message under assembly in the data phase (C02, C07): its frames all carry MORE and are within the frame-count
limit, the model's panic (a frame container that overflows) has not happened if the container holds that many frames,
and every message delivered so far is whole and within the limit. -/
structure BatchInv (cfg : Cfg) (s : Eng) (e : List AppAct) : Prop where
  more : ∀ f ∈ s.partialBatch, f.more = true
  len : s.partialBatch.length ≤ Gen.MAX_FRAMES_PER_MESSAGE
  calm : Gen.MAX_FRAMES_PER_MESSAGE ≤ cfg.frameLimit → s.panicked = false
  whole : ∀ m, AppAct.deliver m ∈ e → WholeMsg m ∧ m.length ≤ Gen.MAX_FRAMES_PER_MESSAGE

theorem step_batch {t : Nat} {s s' : Eng} {o : Out} {e : List AppAct}
    (hi : BatchInv cfg s e) (h : step spec cfg t s = some (s', o)) : BatchInv cfg s' (e ++ o.app) := by
  obtain ⟨hm, hl, hc, hw⟩ := hi
  -- what was delivered before stays; `hd` is the message this step delivers, if any
  have glue : ∀ {a : List AppAct}, (∀ m, AppAct.deliver m ∈ a → WholeMsg m ∧ m.length ≤ Gen.MAX_FRAMES_PER_MESSAGE) →
      ∀ m, AppAct.deliver m ∈ e ++ a → WholeMsg m ∧ m.length ≤ Gen.MAX_FRAMES_PER_MESSAGE :=
    fun hd m hm' => (List.mem_append.1 hm').elim (hw m) (hd m)
  revert s' o
  fun_cases step spec cfg t s <;> rintro s' o ⟨⟩
  -- all transitions but the last four of the data phase leave the batch and `panicked` as they are and deliver nothing
  all_goals try exact ⟨hm, hl, hc, glue (by simp)⟩
  -- too many frames: the batch is dropped
  · exact ⟨nofun, Nat.zero_le _, hc, glue (by simp)⟩
  -- the frame container would overflow: out of reach when it holds as many frames as the guard before it lets through
  · exact ⟨hm, hl, fun hlim => absurd (Nat.le_trans hlim ‹_›) (Nat.not_le_of_lt (lt_of_frameCount_guard ‹_›)),
      glue (by simp)⟩
  -- a MORE frame joins the batch
  · exact ⟨fun f hf => (List.mem_append.1 hf).elim (hm f) fun hf => List.mem_singleton.1 hf ▸ ‹_›,
      Nat.le_trans (Nat.le_of_eq List.length_append) (lt_of_frameCount_guard ‹_›), hc, glue (by simp)⟩
  -- the last frame completes the message, which the frame-count guard has let through; the batch starts afresh
  · refine ⟨nofun, Nat.zero_le _, hc, glue fun m hm' => ?_⟩
    cases List.mem_singleton.1 hm'
    exact ⟨wholeMsg_snoc hm (by simpa using ‹¬ _ = true›),
      Nat.le_trans (Nat.le_of_eq List.length_append) (lt_of_frameCount_guard ‹_›)⟩

theorem BatchInv.init : BatchInv cfg Eng.init [] := ⟨nofun, Nat.zero_le _, fun _ => rfl, nofun⟩

theorem BatchInv.after {s : Eng} {e : List AppAct} (h : BatchInv cfg s e) (reads : List (Nat × Bytes)) :
    BatchInv cfg (feedAll spec cfg s reads).1 (e ++ (feedAll spec cfg s reads).2.app) :=
  feedAll_inv (fun _ _ _ h => ⟨h.more, h.len, h.calm, h.whole⟩) (fun _ _ _ _ _ h hs => step_batch h hs) reads s e h

theorem run_peerError {t : Nat} {e : ErrClass} (f : Nat) (s : Eng)
    (h : AppAct.peerError e ∈ (run spec cfg t f s).2.app) : (run spec cfg t f s).1.phase = .closed := by
  have := run_inv (P := fun s a => AppAct.peerError e ∈ a → s.phase = .closed) (spec := spec) (cfg := cfg)
    (fun t s a s' o hi hs hm => by
      rcases List.mem_append.1 hm with hm | hm
      · rw [step_closed (hi hm)] at hs; cases hs
      · exact step_peerError hs hm)
    t f s [] (fun hm => nomatch hm)
  exact this (by simpa using h)

/-- the counterexample of `accumulator_bounded_false`: with `frameLimit = 0` the first data frame makes the model engine
"panic", and nothing is consumed from then on -/
def accCeCfg : Cfg := { frameLimit := 0, maxMsgSize := 30 }
def accCeBytes : Bytes :=
  Gen.SIGNATURE ++ [3, 0] ++ Gen.mechName_null ++ [0] ++ List.replicate 31 0
    ++ readyBytes { sockType := .ROUTER } ++ [0, 0] ++ List.replicate 64 0

theorem wb_unavailable : WellBehaved AbsSpec.unavailable := fun _ _ _ _ _ => rfl

theorem accCe_fact :
    let s := (feedAll AbsSpec.unavailable accCeCfg Eng.init [(0, accCeBytes)]).1
    s.phase = .data ∧ s.sealed = false ∧ s.acc.length = 64 := by
  -- a concrete run, evaluated by the kernel (the elaborator's evaluator would need a deeper recursion limit)
  decide +kernel

/-- `C07.accumulator_bounded` is false without the `frameLimit` hypothesis. -/
theorem accumulator_bounded_false :
    ¬ (∀ (spec : AbsSpec) (_ : WellBehaved spec) (cfg : Cfg) (m : Nat)
        (_ : cfg.maxMsgSize = (m : Int)) (reads : List (Nat × Bytes)),
        let s := (feedAll spec cfg Eng.init reads).1
        s.phase ≠ .closed → s.sealed = false →
          s.acc.length < max 64 (9 + max m Gen.HANDSHAKE_FRAME_LIMIT)
            ∧ (s.phase = .data → s.acc.length < 9 + m)) := by
  intro h
  have h1 := h AbsSpec.unavailable wb_unavailable accCeCfg 30 rfl [(0, accCeBytes)]
  obtain ⟨h2, h3, h4⟩ := accCe_fact
  simp only at h1 h2 h3 h4
  have := (h1 (by rw [h2]; decide) h3).2 h2
  rw [h4] at this
  omega

end Rzmq
