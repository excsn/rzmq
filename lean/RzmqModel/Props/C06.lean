import RzmqModel.Model.Engine
import RzmqModel.Proofs.EngineSec
/-!
# C06 — a configured security mechanism cannot be bypassed or downgraded (engine level)

All statements quantify over *every* sequence of reads (`reads`), i.e. every peer byte stream in every
segmentation, starting from the initial engine state. For CURVE / Noise_XX the mechanism is abstract
(`AbsSpec`): what is proved is that the engine never completes a handshake unless *that mechanism itself*
reported `ready` on exactly the tokens the engine handed to it — the cryptographic soundness of the mechanism
is a property of `spec`, outside this model.
-/
namespace Rzmq.C06
open Rzmq

/-- a well-formed PLAIN HELLO carrying exactly the credentials the server is configured with -/
def IsValidHello (cfg : Cfg) (tok : Bytes) : Prop :=
  ∃ body u p, tok = lenPrefixed Gen.plainHello ++ body ∧ parseHello body = some (u, p)
    ∧ cfg.plainUser = some u ∧ cfg.plainPass = some p

/-- mechanism negotiation only ever selects a locally enabled mechanism, namely the one the peer named -/
theorem negotiate_sound (spec : AbsSpec) (cfg : Cfg) (g : Greeting) (m : Mech)
    (h : negotiate spec cfg g = .ok m) :
    mechEnabled cfg (mechKindOf m) = true ∧ mechNameBytes (mechKindOf m) = g.mechanism := by
  exact ⟨(negotiate_ok h).1, (negotiate_ok h).2.1⟩

/-- with security configured, NULL is never negotiated -/
theorem secure_never_null (spec : AbsSpec) (cfg : Cfg) (hs : cfg.securityEnabled = true) (g : Greeting) (m : Mech)
    (h : negotiate spec cfg g = .ok m) : mechKindOf m ≠ .null := by
  intro hk
  have h1 := (negotiate_ok h).1
  rw [hk] at h1
  simp [mechEnabled, hs] at h1

/-- No downgrade: with security configured the connection never becomes a ZMTP/2.0 session, whatever the
peer sends and whatever ALLOW_ZMTP2 says. -/
theorem no_v2_when_secure (spec : AbsSpec) (cfg : Cfg) (hs : cfg.securityEnabled = true)
    (reads : List (Nat × Bytes)) :
    (feedAll spec cfg Eng.init reads).1.version ≠ some .v2 := by
  intro hv
  have h1 := (Inv.reachable spec cfg reads).v2ref hv
  rw [v2Refused_of_secure hs] at h1
  cases h1

/-- Nothing reaches the application before the handshake completed: every delivered message is preceded, in
the engine's output, by `HandshakeComplete`. -/
theorem no_deliver_before_handshake (spec : AbsSpec) (cfg : Cfg) (reads : List (Nat × Bytes))
    (pre post : List AppAct) (m : Message)
    (h : (feedAll spec cfg Eng.init reads).2.app = pre ++ .deliver m :: post) :
    ∃ a ∈ pre, isHandshakeComplete a = true := by
  exact (Inv.reachable spec cfg reads).deliver pre m post h

/-- A completed handshake means a mechanism was negotiated, it is one that is enabled locally, and (with
security configured) it is not NULL. -/
theorem handshake_requires_negotiated_mechanism (spec : AbsSpec) (cfg : Cfg) (hs : cfg.securityEnabled = true)
    (reads : List (Nat × Bytes))
    (h : ∃ a ∈ (feedAll spec cfg Eng.init reads).2.app, isHandshakeComplete a = true) :
    ∃ k, (feedAll spec cfg Eng.init reads).1.gNegotiated = some k ∧ k ≠ .null ∧ mechEnabled cfg k = true := by
  obtain ⟨k, hk, hen, _⟩ := feedAll_done spec cfg hs reads h
  refine ⟨k, hk, fun hnull => ?_, hen⟩
  simp [hnull, mechEnabled, hs] at hen

/-- PLAIN server: a handshake completes only if the peer presented a HELLO with exactly the configured user
name and password — for every byte stream (missing, repeated, reordered, malformed commands; data before
authentication; ZMTP/2.0 greetings; other mechanism names). -/
theorem plain_server_requires_credentials (spec : AbsSpec) (cfg : Cfg)
    (hcfg : cfg.securityEnabled = true ∧ cfg.usePlain = true ∧ cfg.useCurve = false ∧ cfg.useNoise = false)
    (hsrv : cfg.isServer = true) (reads : List (Nat × Bytes))
    (h : ∃ a ∈ (feedAll spec cfg Eng.init reads).2.app, isHandshakeComplete a = true) :
    ∃ tok ∈ (feedAll spec cfg Eng.init reads).1.gTokens, IsValidHello cfg tok := by
  obtain ⟨hs, hpl, hcu, hno⟩ := hcfg
  obtain ⟨k, hk, hen, hf⟩ := feedAll_done spec cfg hs reads h
  -- PLAIN is the only mechanism enabled
  cases k with
  | plain =>
    simp only [Final, hsrv, if_true] at hf
    exact hf
  | _ => simp [mechEnabled, hs, hcu, hno] at hen

/-- a PLAIN server on which a credential was left unset admits nobody: no HELLO is valid for it, not even the one with the
empty name and the empty password -/
theorem unset_credential_admits_nobody (cfg : Cfg) (h : cfg.plainUser = none ∨ cfg.plainPass = none) (tok : Bytes) :
    ¬ IsValidHello cfg tok := by
  rintro ⟨_, u, p, _, _, hu, hp⟩
  rcases h with h | h
  · rw [h] at hu; cases hu
  · rw [h] at hp; cases hp

/-- a PLAIN server without configured credentials accepts nobody -/
theorem plain_server_without_credentials_rejects (spec : AbsSpec) (cfg : Cfg)
    (hcfg : cfg.securityEnabled = true ∧ cfg.usePlain = true ∧ cfg.useCurve = false ∧ cfg.useNoise = false)
    (hsrv : cfg.isServer = true) (hnone : cfg.plainUser = none ∨ cfg.plainPass = none)
    (reads : List (Nat × Bytes)) :
    ∀ a ∈ (feedAll spec cfg Eng.init reads).2.app, isHandshakeComplete a = false ∧ isDeliver a = false := by
  have nohc : ¬ ∃ a ∈ (feedAll spec cfg Eng.init reads).2.app, isHandshakeComplete a = true := by
    intro h
    obtain ⟨tok, _, hv⟩ := plain_server_requires_credentials spec cfg hcfg hsrv reads h
    exact unset_credential_admits_nobody cfg hnone tok hv
  intro a ha
  constructor
  · cases hh : isHandshakeComplete a
    · rfl
    · exact absurd ⟨a, ha, hh⟩ nohc
  · cases a with
    | deliver m =>
      obtain ⟨pre, post, hsplit⟩ := List.append_of_mem ha
      obtain ⟨b, hb, hbc⟩ := no_deliver_before_handshake spec cfg reads pre post m hsplit
      exact absurd ⟨b, by rw [hsplit]; exact List.mem_append_left _ hb, hbc⟩ nohc
    | handshakeComplete i st => rfl
    | peerError e => rfl

/-- PLAIN client: completes only after the server answered WELCOME -/
theorem plain_client_requires_welcome (spec : AbsSpec) (cfg : Cfg)
    (hcfg : cfg.securityEnabled = true ∧ cfg.usePlain = true ∧ cfg.useCurve = false ∧ cfg.useNoise = false)
    (hcl : cfg.isServer = false) (reads : List (Nat × Bytes))
    (h : ∃ a ∈ (feedAll spec cfg Eng.init reads).2.app, isHandshakeComplete a = true) :
    ∃ tok ∈ (feedAll spec cfg Eng.init reads).1.gTokens, ∃ body, tok = lenPrefixed Gen.plainWelcome ++ body := by
  obtain ⟨hs, hpl, hcu, hno⟩ := hcfg
  obtain ⟨k, hk, hen, hf⟩ := feedAll_done spec cfg hs reads h
  cases k with
  | plain =>
    simp only [Final, hcl, Bool.false_eq_true, if_false] at hf
    exact hf
  | _ => simp [mechEnabled, hs, hcu, hno] at hen

/-- CURVE / Noise_XX (abstract mechanism): a handshake completes only if the mechanism itself reported
`ready` on exactly the tokens the engine accepted from the peer — the engine never skips or short-circuits it. -/
theorem abstract_mechanism_not_skipped (spec : AbsSpec) (cfg : Cfg)
    (hcfg : cfg.securityEnabled = true ∧ cfg.usePlain = false)
    (reads : List (Nat × Bytes))
    (h : ∃ a ∈ (feedAll spec cfg Eng.init reads).2.app, isHandshakeComplete a = true) :
    ∃ k n, (k = .curve ∨ k = .noise) ∧ (feedAll spec cfg Eng.init reads).1.gNegotiated = some k
      ∧ spec.status k cfg.isServer (feedAll spec cfg Eng.init reads).1.gTokens n = .ready := by
  obtain ⟨hs, hpl⟩ := hcfg
  obtain ⟨k, hk, hen, hf⟩ := feedAll_done spec cfg hs reads h
  cases k with
  | null => simp [mechEnabled, hs] at hen
  | plain => simp [mechEnabled, hpl] at hen
  | curve =>
    obtain ⟨n, hn⟩ := hf
    exact ⟨.curve, n, .inl rfl, hk, hn⟩
  | noise =>
    obtain ⟨n, hn⟩ := hf
    exact ⟨.noise, n, .inr rfl, hk, hn⟩

-- non-vacuity of `IsValidHello`: the HELLO that `helloBody` builds from the configured credentials is valid
example :
    let cfg : Cfg := { isServer := true, sockType := .PULL, securityEnabled := true, usePlain := true,
                       plainUser := some [117], plainPass := some [112] }
    IsValidHello cfg (lenPrefixed Gen.plainHello ++ helloBody [117] [112]) := by
  refine ⟨helloBody [117] [112], [117], [112], rfl, ?_, rfl, rfl⟩
  decide

/-- the credential check of the PLAIN server has the shape the model gives it (re-extracted from the source on every run):
a credential that was never configured matches nothing -/
theorem plain_source_shape : Gen.plainUnsetCredentialAdmitsNobody = 1 := by decide

/-- the names a peer's greeting and commands are compared with are those of the RFCs (23/37: 20-byte zero-padded mechanism
names NULL, PLAIN, CURVE; READY and ERROR commands with a 1-byte name length; 24/PLAIN: HELLO, WELCOME, ERROR), pinned
independently of the source — "the mechanism the peer proposed" means the same thing to rzmq as to any ZeroMQ peer -/
theorem mechanism_and_command_names_are_the_rfc_ones :
    Gen.mechName_null = [0x4E, 0x55, 0x4C, 0x4C] ++ List.replicate 16 0
    ∧ Gen.mechName_plain = [0x50, 0x4C, 0x41, 0x49, 0x4E] ++ List.replicate 15 0
    ∧ Gen.mechName_curve = [0x43, 0x55, 0x52, 0x56, 0x45] ++ List.replicate 15 0
    ∧ Gen.cmdReady = [5, 0x52, 0x45, 0x41, 0x44, 0x59] ∧ Gen.cmdError = [5, 0x45, 0x52, 0x52, 0x4F, 0x52]
    ∧ Gen.readyPropsOffset = 6
    ∧ Gen.plainHello = [0x48, 0x45, 0x4C, 0x4C, 0x4F] ∧ Gen.plainWelcome = [0x57, 0x45, 0x4C, 0x43, 0x4F, 0x4D, 0x45]
    ∧ Gen.plainError = [0x45, 0x52, 0x52, 0x4F, 0x52] := by
  decide

end Rzmq.C06
