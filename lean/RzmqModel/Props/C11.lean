import RzmqModel.Model.Routing
import RzmqModel.Proofs.RouterMap
/-!
# C11 — ROUTER addresses by true peer identity; envelopes round-trip unchanged

Part 1: `RouterMap` (identity ↔ pipe bookkeeping) refines the obvious specification as long as no two live
pipes hold the same identity; the reverse direction and lookup soundness hold for every history, and on a collision the
newest connection wins (`collision_newest_wins`).
Part 2: envelope algebra — payload frames survive every DEALER/REQ/ROUTER/REP send–receive combination.
-/
namespace Rzmq.C11
open Rzmq

/-- For EVERY history (identity collisions included): the identity reported for a pipe is its current one … -/
theorem pipe_identity_refines (h : List MapOp) (pipe : Nat) (id : Ident) :
    (h.foldl applyOp {}).identityOfPipe pipe = some id ↔ ∃ info, amGet (h.foldl specApply []) pipe = some (id, info) := by
  exact (RouterInv.run h {} [] RouterInv.init).1 pipe id

/-- … and a lookup never yields a dead or a wrong connection: whatever it returns is the endpoint of a LIVE pipe
that currently holds exactly that identity (with the strategy that pipe registered). -/
theorem lookup_sound (h : List MapOp) (id : Ident) (info : PeerInfo)
    (hl : (h.foldl applyOp {}).lookup id = some info) :
    amGet (h.foldl specApply []) info.pipe = some (id, info) := by
  exact (RouterInv.run h {} [] RouterInv.init).2 id info hl

/-- Refinement: for every collision-free history of add / re-identify / remove, looking an identity up yields
exactly the endpoint (and send strategy) of the live pipe that currently holds that identity. -/
theorem router_map_refines (h : List MapOp) (hc : collisionFree [] h = true) :
    let m := h.foldl applyOp {}
    let sp := h.foldl specApply []
    (∀ id info, m.lookup id = some info ↔ ∃ pipe, amGet sp pipe = some (id, info)) := by
  intro m sp id info
  exact ⟨fun hl => ⟨info.pipe, lookup_sound h id info hl⟩,
    fun ⟨pipe, hp⟩ => (RouterInvCF.run h {} [] RouterInvCF.init hc).1 pipe id info hp⟩

/-- a disconnected peer's identity stops being routable; everybody else is unaffected -/
theorem remove_is_local (h : List MapOp) (pipe : Nat) (id : Ident)
    (hid : (h.foldl applyOp {}).identityOfPipe pipe ≠ some id) :
    ((h.foldl applyOp {}).removeByPipe pipe).lookup id = (h.foldl applyOp {}).lookup id :=
  removeByPipe_lookup_other _ pipe id hid

/-- identity collision (two live pipes announce the same identity): the newest claimant is addressed, and it
stays routable when the older one disconnects (fixed: the older pipe's removal used to unroute it) -/
theorem collision_newest_wins :
    let h : List MapOp := [MapOp.add [7] 1 100, MapOp.add [7] 2 200, MapOp.removePipe 1]
    let m := h.foldl applyOp {}
    m.identityOfPipe 2 = some ([7] : Ident) ∧ (m.lookup ([7] : Ident)).map (·.uri) = some 200 := by
  decide

/-- … and when the newest claimant disconnects the identity becomes unroutable rather than pointing at a
dead connection -/
theorem collision_newest_removed :
    let h : List MapOp := [MapOp.add [7] 1 100, MapOp.add [7] 2 200, MapOp.removePipe 2]
    (h.foldl applyOp {}).lookup ([7] : Ident) = none := by
  decide

def payloadsOf (fs : List Frame) : List (List UInt8) := fs.map (·.payload)

/-- DEALER → ROUTER (both auto-delimiter, or both manual): the ROUTER application receives the sender's
identity followed by exactly the payload frames (bytes and order; empty frames anywhere preserved), MORE on all
but the last -/
theorem dealer_to_router (manual : Bool) (id : List UInt8) (payload : List Frame) (hne : payload ≠ []) :
    routerToApp id (routerProcessIncoming manual .dealer (dealerPrepareSend manual payload))
      = normFlags ({ payload := id, more := true, command := false } :: payload) := by
  cases manual with
  | true => exact routerToApp_normFlags id hne
  | false =>
    rw [dealerPrepareSend_auto hne]
    exact routerToApp_normFlags id hne

/-- ROUTER → DEALER, default and DEALER strategies, auto-delimiter on both sides: the DEALER application
receives exactly the payload frames (given the user set MORE on all but the last, as the API requires) -/
theorem router_to_dealer_auto (s : Strat) (hs : s = .default ∨ s = .dealer) (id : Frame) (hid : id.payload ≠ [])
    (payload : List Frame) (hn : normFlags payload = payload) :
    dealerProcessIncoming false (routerSendWire s false (id :: payload)) = payload := by
  have hidne : id.payload.isEmpty = false := List.isEmpty_eq_false_iff.2 hid
  have hw : routerSendWire s false (id :: payload)
      = clearLastMore (setMore (if payload.isEmpty then id else setMore id) :: emptyFrame (!payload.isEmpty) :: payload) := by
    rcases hs with rfl | rfl <;> simp [routerSendWire, prepareWire, routerAutoEncode]
  rw [hw]
  cases payload with
  | nil =>
    simp [clearLastMore, dealerProcessIncoming, setMore, emptyFrame, hidne]
  | cons f rest =>
    rw [clearLastMore_cons_of_ne_nil _ _ (by simp), clearLastMore_cons_of_ne_nil _ _ (by simp),
      clearLastMore_of_normFlags_eq _ hn]
    simp [dealerProcessIncoming, setMore, emptyFrame, hidne]

/-- REQ → ROUTER: `[delimiter, request]` arrives as `[identity, request]` -/
theorem req_to_router (id : List UInt8) (msg : Frame) :
    routerToApp id (routerProcessIncoming false .req (reqSendWire msg))
      = [{ payload := id, more := true, command := false }, { msg with more := false }] := by
  simp [reqSendWire, routerProcessIncoming, routerToApp, emptyFrame, clearLastMore]

/-- ROUTER → REQ (REQ strategy): the REQ application receives exactly the payload -/
theorem router_to_req (manual : Bool) (id : Frame) (payload : List Frame) (hne : payload ≠ []) :
    reqProcessIncoming (routerSendWire .req manual (id :: payload)) = clearLastMore payload := by
  have he := List.isEmpty_eq_false_iff.2 hne
  simp only [routerSendWire, prepareWire, he, Bool.not_false]
  rw [clearLastMore_cons_of_ne_nil _ _ hne]
  simp [reqProcessIncoming, emptyFrame]

/-- REQ → REP → REQ: the REP sees exactly the request; its reply reaches the REQ unchanged, with the routing
prefix (everything up to the delimiter) restored in front of it -/
theorem req_rep_roundtrip (msg : Frame) (reply : List Frame) (hne : reply ≠ []) :
    (repExtractPrefix (reqSendWire msg)).2 = [{ msg with more := false }]
    ∧ reqProcessIncoming (repReplyWire (repExtractPrefix (reqSendWire msg)).1 reply) = normFlags reply := by
  rw [reqSendWire, repExtractPrefix_delim, repReplyWire_delim hne]
  exact ⟨rfl, rfl⟩

/-- DEALER → REP → DEALER through the delimiter convention -/
theorem dealer_rep_roundtrip (payload reply : List Frame) (hne : payload ≠ []) (hr : reply ≠ []) :
    payloadsOf (repExtractPrefix (dealerPrepareSend false payload)).2 = payloadsOf payload
    ∧ payloadsOf (dealerProcessIncoming false
        (repReplyWire (repExtractPrefix (dealerPrepareSend false payload)).1 reply)) = payloadsOf reply := by
  rw [dealerPrepareSend_auto hne, repExtractPrefix_delim, repReplyWire_delim hr]
  exact ⟨map_payload_normFlags payload, map_payload_normFlags reply⟩

/-- every wire message a ROUTER / DEALER / REQ / REP emits is well formed: MORE exactly on all but the last
frame (for ROUTER: given well-flagged user frames) -/
theorem wire_flags_wellformed (manual : Bool) (payload : List Frame) :
    normFlags (dealerPrepareSend manual payload) = dealerPrepareSend manual payload := by
  simp only [dealerPrepareSend]
  split
  · exact normFlags_idem _
  · split
    · rfl
    · exact normFlags_idem _

end Rzmq.C11
