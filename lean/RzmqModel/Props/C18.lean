import RzmqModel.Model.Record
import RzmqModel.Props.C03
import RzmqModel.Proofs.Record
/-!
# C18 — encrypted connections keep data secret, detect tampering, and stay decodable

Under an ideal AEAD (see `Model/Record.lean`).  Proved: whatever an on-path adversary does to the stream of records, the
receiver's parser sees a prefix of the sender's plaintext, hence delivers a prefix of the sender's frames — never a wrong,
partial, reordered or duplicated one; every batch of every size is cut into records whose length field is exact and which
reassemble to the batch.  NOT true of the code (`curve_sessions_repeat`): two CURVE sessions between the same key pairs seal
the same first plaintext with the same key and nonce.
-/
namespace Rzmq.C18
open Rzmq

/-- the shape of the sources (re-extracted on every run) -/
theorem source_shape :
    Gen.MAX_RECORD_PLAINTEXT = 65519 ∧ Gen.recordsAreChunked = 2 ∧ Gen.recordLengthChecked = 1
    ∧ Gen.recordReaderAppendsPlaintext = 1 ∧ Gen.controlFramesThroughFramer = 2 ∧ Gen.curveNonceIncrementsPerRecord = 2
    ∧ Gen.noiseRefusesOversizeRecord = 1 ∧ Gen.priorityPushesGuardedByKeepOrder = 1 := by
  decide

/-- a batch of any size is cut into pieces that reassemble to it exactly, … -/
theorem pieces_reassemble (limit : Nat) (p : List UInt8) : (recordPieces limit p).flatten = p := by
  exact chunksOfLimit_flatten (max limit 1) _ p (by omega) (Nat.lt_succ_self _)

/-- … none of them empty, each within the record limit, so that with the 16-byte tag the 16-bit length field is exact -/
theorem pieces_fit_the_length_field (p : List UInt8) :
    ∀ c ∈ recordPieces Gen.MAX_RECORD_PLAINTEXT p, c ≠ [] ∧ c.length ≤ Gen.MAX_RECORD_PLAINTEXT
      ∧ lengthField (c.length + 16) = c.length + 16 := by
  intro c hc
  obtain ⟨hne, hle⟩ := recordPieces_mem Gen.MAX_RECORD_PLAINTEXT (by decide) p c hc
  refine ⟨hne, hle, ?_⟩
  simp only [Gen.MAX_RECORD_PLAINTEXT] at hle
  simp only [lengthField]
  omega

/-- the earlier shape: one record per batch with the length written `as u16`: a batch of 65520 bytes (plus tag: 65536)
announces a record of length 0 -/
theorem unchunked_length_wraps : lengthField (65520 + 16) = 0 ∧ lengthField (70000 + 16) ≠ 70000 + 16 := by
  decide

/-- honest transmission: the receiver's parser gets exactly the sender's plaintext, whatever the batch sizes -/
theorem honest_stream_decodes (pieces : List (List UInt8)) :
    receivedPlaintext pieces (honestStream pieces.length) = pieces.flatten := by
  unfold receivedPlaintext
  rw [acceptedRecords_honestStream, flatten_map_getD_range, List.take_length]

/-- Whatever the adversary puts on the wire — any sequence of honest records in any order and multiplicity mixed with
anything else — the receiver accepts exactly the records 0..k-1 for some k: an in-order prefix, each once. -/
theorem accepted_is_a_prefix (stream : List WireRec) :
    ∃ k, acceptedRecords 0 stream = List.range k := by
  obtain ⟨k, hk⟩ := acceptedRecords_range' stream 0
  exact ⟨k, by rw [hk, List.range_eq_range']⟩

/-- … so its parser sees a prefix of the plaintext the sender produced -/
theorem tampered_plaintext_is_a_prefix (pieces : List (List UInt8)) (stream : List WireRec) :
    receivedPlaintext pieces stream <+: pieces.flatten := by
  obtain ⟨k, hk⟩ := accepted_is_a_prefix stream
  unfold receivedPlaintext
  rw [hk, flatten_map_getD_range]
  exact ⟨(pieces.drop k).flatten, by rw [← List.flatten_append, List.take_append_drop]⟩

/-- … and therefore decodes a prefix of the frames the sender framed: never a wrong, partial, reordered or duplicated
frame (C03's prefix-monotone decoder; frames within the length/size limits) -/
theorem tampered_frames_are_a_prefix (max : Int) (frames : List Frame) (limit : Nat) (stream : List WireRec)
    (hok : ∀ f ∈ frames, C03.FrameOk f ∧ C03.Admits max f) :
    (decodeAll max (receivedPlaintext (recordPieces limit (frames.map encodeCodec).flatten) stream)).1 <+: frames := by
  have hp := tampered_plaintext_is_a_prefix (recordPieces limit (frames.map encodeCodec).flatten) stream
  rw [pieces_reassemble] at hp
  exact decodeAll_prefix_of_encoded max frames _ (fun f hf => (hok f hf).1) (fun f hf => (hok f hf).2) hp

/-- each single mutation named by the property stops the receiver at the mutated record at the latest -/
theorem single_mutation_cuts_at_the_record (n : Nat) (m : Mutation) :
    ∃ k, acceptedRecords 0 (mutate (honestStream n) m) = List.range k ∧ k ≤ n
      ∧ (match m with
         | .flip r => r < n → k = r
         | .drop r => r < n → k = r
         | .dup r => r < n → k = r + 1
         | .swap r => r + 1 < n → k = r
         | .cut r => k = min r n
         | .inject r => r ≤ n → k = r) := by
  cases m with
  | flip r =>
    refine ⟨min r n, ?_, Nat.min_le_right r n, fun h => Nat.min_eq_left (Nat.le_of_lt h)⟩
    simp only [mutate]
    rw [List.set_eq_take_append_cons_drop, honestStream_length]
    split
    · rw [honestStream_take]
      exact accepted_honestStream_then_bad _ _ _ rfl
    · rw [Nat.min_eq_right (by omega)]
      exact acceptedRecords_honestStream n
  | drop r =>
    -- what follows the gap, if anything, starts with record r + 1 in slot r
    refine ⟨min r n, ?_, Nat.min_le_right r n, fun h => Nat.min_eq_left (Nat.le_of_lt h)⟩
    simp only [mutate]
    rw [List.eraseIdx_eq_take_drop_succ, honestStream_take, honestStream_drop]
    cases n - (r + 1) with
    | zero => rw [List.range'_zero, List.map_nil, List.append_nil]; exact acceptedRecords_honestStream _
    | succ q =>
      rw [List.range'_succ, List.map_cons]
      exact accepted_honestStream_then_bad _ _ _ (opens_honest_ne _ _ (by omega))
  | dup r =>
    refine ⟨min (r + 1) n, ?_, Nat.min_le_right _ n, fun h => Nat.min_eq_left h⟩
    by_cases h : r < n
    · simp only [mutate, honestStream_getElem? n r h]
      rw [honestStream_take]
      exact accepted_honestStream_then_bad _ _ _ (opens_honest_ne _ _ (by omega))
    · simp only [mutate, honestStream_getElem?_none n r (by omega)]
      rw [Nat.min_eq_right (by omega)]
      exact acceptedRecords_honestStream n
  | swap r =>
    by_cases h : r + 1 < n
    · refine ⟨r, ?_, by omega, fun _ => rfl⟩
      simp only [mutate, honestStream_getElem? n r (by omega), honestStream_getElem? n (r + 1) h]
      rw [honestStream_take, Nat.min_eq_left (by omega : r ≤ n)]
      exact accepted_honestStream_then_bad r _ _ (opens_honest_ne _ _ (by omega))
    · refine ⟨n, ?_, Nat.le_refl n, fun h' => absurd h' h⟩
      rw [mutate_swap_none _ r (honestStream_getElem?_none n (r + 1) (by omega))]
      exact acceptedRecords_honestStream n
  | cut r =>
    refine ⟨min r n, ?_, Nat.min_le_right r n, rfl⟩
    simp only [mutate]
    rw [honestStream_take]
    exact acceptedRecords_honestStream _
  | inject r =>
    refine ⟨min r n, ?_, Nat.min_le_right r n, fun h => Nat.min_eq_left h⟩
    simp only [mutate]
    rw [honestStream_take]
    exact accepted_honestStream_then_bad _ _ _ rfl

/-- what the CURVE implementation does, as extracted -/
theorem curve_as_it_is : Gen.curveDataKeysFromStaticKeysOnly = 1 ∧ Gen.curveNonceCountersStartAtOne = 1 := by
  decide

/-- The negation of "two sessions between the same key pairs never encrypt the same plaintext to the same bytes": with the
data key a function of the static keys alone and the counter restarting at 1, the first record of two sessions (whatever
their ephemeral keys) that carry the same first plaintext has the same key, nonce and plaintext — the same bytes.
(Known finding C18:curve-sessions-repeat, replayed on the implementation on every run.) -/
theorem curve_sessions_repeat (staticPair e1 e2 : Nat) (p : List UInt8) :
    curveFirstRecord staticPair e1 p = curveFirstRecord staticPair e2 p := by
  rfl

end Rzmq.C18
