import RzmqModel.Proofs.EngineRun
import RzmqModel.Proofs.EngineHb
/-!
# C19 — heartbeats detect dead peers and never kill live ones (engine level; time = `Nat` ms)

`onTick` models `ZmtpEngine::on_tick(now)`; inbound traffic is `step` in the `data` phase.
-/
namespace Rzmq.C19
open Rzmq

/-- exact characterisation of when a tick sends a PING -/
theorem tick_pings_iff (cfg : Cfg) (now : Nat) (s : Eng) :
    (onTick cfg now s).2.net = [pingAct cfg] ↔
      (s.phase = .data ∧ s.version ≠ some .v2 ∧ s.waitingForPong = false
        ∧ ∃ ivl, cfg.heartbeatIvl = some ivl ∧ ivl ≤ now - s.lastActivity) := by
  constructor
  · intro h
    have ht := onTick_tick cfg now s
    generalize onTick cfg now s = r at h ht
    cases ht with
    | ping ivl hd hv hw hi hdue => exact ⟨hd, hv, hw, ivl, hi, hdue⟩
    | _ => cases h
  · rintro ⟨hd, hv, hw, ivl, hi, hdue⟩
    rw [onTick_ping hd hv hw hi hdue]

/-- a tick never sends anything but that one PING -/
theorem tick_net_only_ping (cfg : Cfg) (now : Nat) (s : Eng) :
    (onTick cfg now s).2.net = [] ∨ (onTick cfg now s).2.net = [pingAct cfg] := by
  have ht := onTick_tick cfg now s
  generalize onTick cfg now s = r at ht
  cases ht with
  | ping => exact .inr rfl
  | _ => exact .inl rfl

/-- not early: a PING is sent only when at least HEARTBEAT_IVL has passed since the last activity -/
theorem ping_not_early (cfg : Cfg) (now : Nat) (s : Eng) (ivl : Nat) (hi : cfg.heartbeatIvl = some ivl)
    (h : (onTick cfg now s).2.net ≠ []) : ivl ≤ now - s.lastActivity := by
  have ht := onTick_tick cfg now s
  generalize onTick cfg now s = r at h ht
  cases ht with
  | ping ivl' _ _ _ hi' hdue =>
    cases hi.symm.trans hi'
    exact hdue
  | _ => exact absurd rfl h

/-- not late: if ticks come at least every HEARTBEAT_IVL (the actor's interval timer), the first tick at or
after `lastActivity + ivl` sends the PING, and it happens before `lastActivity + 2·ivl`. -/
theorem ping_not_late (cfg : Cfg) (s : Eng) (ivl t0 t1 : Nat) (hi : cfg.heartbeatIvl = some ivl)
    (hd : s.phase = .data) (hv : s.version ≠ some .v2) (hw : s.waitingForPong = false)
    (h0 : t0 < s.lastActivity + ivl) (hgap : t1 ≤ t0 + ivl) (hdue : s.lastActivity + ivl ≤ t1) :
    (onTick cfg t1 s).2.net = [pingAct cfg] ∧ t1 < s.lastActivity + 2 * ivl
    ∧ (onTick cfg t1 s).1.waitingForPong = true ∧ (onTick cfg t1 s).1.lastPing = some t1 := by
  rw [onTick_ping hd hv hw hi (by omega)]
  exact ⟨rfl, by omega, rfl, rfl⟩

/-- dead peer: no PONG within HEARTBEAT_TIMEOUT of the PING ⇒ the first tick at/after the deadline closes
the connection with a timeout error -/
theorem dead_peer_closed (cfg : Cfg) (s : Eng) (now p tmo : Nat) (ht : cfg.heartbeatTimeout = some tmo)
    (hd : s.phase = .data) (hv : s.version ≠ some .v2) (hw : s.waitingForPong = true)
    (hp : s.lastPing = some p) (hdl : p + tmo ≤ now) :
    (onTick cfg now s).2.app = [.peerError .timeout] ∧ (onTick cfg now s).1.phase = .closed := by
  have h1 : tmo ≤ now - p := by omega
  unfold onTick
  simp [ht, hd, hv, hw, hp, h1]

/-- a tick raises the heartbeat timeout only if a PING is outstanding and its deadline has passed -/
theorem timeout_only_after_deadline (cfg : Cfg) (s : Eng) (now : Nat)
    (hmono : ∀ p, s.lastPing = some p → p ≤ now)
    (h : (onTick cfg now s).2.app ≠ []) :
    s.waitingForPong = true ∧ ∃ p tmo, s.lastPing = some p ∧ cfg.heartbeatTimeout = some tmo ∧ p + tmo ≤ now := by
  have ht := onTick_tick cfg now s
  generalize onTick cfg now s = r at h ht
  cases ht with
  | timeout p tmo _ _ hw hp ht hdl => exact ⟨hw, p, tmo, hp, ht, by have := hmono p hp; omega⟩
  | _ => exact absurd rfl h

/-- live peer: *any* frame received in the data phase (a PONG, another command, or application data) clears
the outstanding PING and refreshes the activity clock -/
theorem traffic_keeps_alive (spec : AbsSpec) (cfg : Cfg) (now : Nat) (s s' : Eng) (o : Out)
    (hd : s.phase = .data) (h : step spec cfg now s = some (s', o)) (hd' : s'.phase = .data) :
    s'.waitingForPong = false ∧ s'.lastActivity = now := by
  revert s' o
  fun_cases step spec cfg now s <;> rintro s' o ⟨⟩
  -- the transitions of the other phases are excluded by `hd`, the failing ones by `hd'`; the others all stamp the clock,
  -- and clear `waitingForPong` because `Gen.trafficClearsWaitingForPong = 1`
  all_goals try exact Phase.noConfusion (hd.symm.trans ‹s.phase = _›)
  all_goals
    intro hd'
    first
    | cases hd'
    | exact ⟨by simp +zetaDelta [Gen.trafficClearsWaitingForPong], rfl⟩

/-- hence a peer that answers (or keeps sending) before each deadline is never disconnected by a tick:
after inbound traffic at time `r`, no tick before `r + ivl` pings and no tick at all times out until a new
PING has gone unanswered for the full timeout -/
theorem answering_peer_survives (spec : AbsSpec) (cfg : Cfg) (r now : Nat) (s s' : Eng) (o : Out)
    (hd : s.phase = .data) (h : step spec cfg r s = some (s', o)) (hd' : s'.phase = .data) :
    (onTick cfg now s').2.app = [] := by
  exact onTick_app_nil_of_not_waiting cfg now s' (traffic_keeps_alive spec cfg r s s' o hd h hd').1

/-- every well-formed PING is answered by exactly one PONG carrying the same context bytes … -/
theorem pong_echoes_context (spec : AbsSpec) (cfg : Cfg) (now : Nat) (s : Eng) (ttl : Nat) (ctx rest : Bytes)
    (hd : s.phase = .data) (hv : s.version ≠ some .v2) (hs : s.sealed = false) (hp : s.panicked = false)
    (hlen : (Gen.mkPing ++ be16 ttl ++ ctx).length + 9 < two64)
    (hmax : cfg.maxMsgSize < 0 ∨ (Gen.mkPing ++ be16 ttl ++ ctx).length ≤ cfg.maxMsgSize.toNat)
    (hacc : s.acc = encodeCodec (cmdFrame (Gen.mkPing ++ be16 ttl ++ ctx)) ++ rest) :
    ∃ s', step spec cfg now s = some (s', { net := [sendAct (pongBytes ctx)], app := [] })
      ∧ s'.acc = rest ∧ s'.phase = .data := by
  have hdec : decodeBuffer cfg.maxMsgSize s.acc = .frame (cmdFrame (Gen.mkPing ++ be16 ttl ++ ctx)) rest := by
    rw [hacc]
    exact decodeBuffer_encode' _ _ rest (Nat.lt_of_add_right_lt hlen) hmax
  have hv' : (s.version == some .v2) = false := by simpa using hv
  unfold step
  simp only [hd, hs, hp, hdec, cmdFrame, parseCmd_ping, hv']
  simp

/-- … and the PONG the engine emits parses back to that context -/
theorem pong_roundtrip (ctx : Bytes) : parseCmd (Gen.mkPong ++ ctx) = some (.pong ctx) := by
  simp [parseCmd, Gen.mkPong, Gen.cmdPing, Gen.cmdPong, Gen.cmdPingMinLen, Gen.cmdPongMinLen,
    Gen.pongContextOffset, List.isPrefixOf]

/-- no heartbeat is ever sent on a ZMTP/2.0 session -/
theorem v2_never_pings (cfg : Cfg) (now : Nat) (s : Eng) (hv : s.version = some .v2) :
    onTick cfg now s = (s, {}) := by
  unfold onTick
  simp [hv]

/-- nor before the handshake has completed -/
theorem no_ping_before_data (cfg : Cfg) (now : Nat) (s : Eng) (h : s.phase ≠ .data) :
    onTick cfg now s = (s, {}) := by
  unfold onTick
  simp [h]

/-- the heartbeat commands on the wire are those of RFC 37 (ZMTP 3.1): a command body starts with the length-prefixed name,
`\x04PING` followed by a 2-byte TTL and the context (so the context starts at byte 7), `\x04PONG` followed by the context
(byte 5) — pinned independently of the source, from which the models' constants are re-extracted -/
theorem heartbeat_commands_are_rfc37 :
    Gen.mkPing = [4, 0x50, 0x49, 0x4E, 0x47] ∧ Gen.mkPong = [4, 0x50, 0x4F, 0x4E, 0x47]   -- 'P' 'I'/'O' 'N' 'G'
    ∧ Gen.cmdPing = Gen.mkPing ∧ Gen.cmdPong = Gen.mkPong
    ∧ Gen.pingContextOffset = 1 + 4 + 2 ∧ Gen.pongContextOffset = 1 + 4
    ∧ Gen.cmdPingMinLen = 7 ∧ Gen.cmdPongMinLen = 5 := by
  decide

end Rzmq.C19
