import RzmqModel.Model.Rpq
import RzmqModel.Proofs.RpqInv
/-!
# C08 — a receiver never sleeps while a message is queued for it (no lost wake-ups)

`RpqSt` is the ready-pipe queue as a transition system at schedule-point granularity, for ANY number of
pipes, producer and consumer tasks and ANY interleaving (`RpqSt.step s t` = one grant to task `t`).
A *token* for pipe `p` is an entry of `p` on the ready list or a task that is in the middle of an operation
and is still going to put `p` back on (or is holding it off) the ready list.
-/
namespace Rzmq.C08
open Rzmq

theorem inv_initial (s : RpqSt) (h : Initial s) : Inv s := by
  obtain ⟨hr, hp, htk⟩ := h
  -- no task has a share in any of the sums
  have hq : ∀ e ∈ s.tasks, ∀ x, uncounted x e.2 = false ∧ takenNotCounted x e.2 = false ∧ holdsToken x e.2 = false
      ∧ pendingRes x e.2 = 0 ∧ pcOk e.2 := by
    intro e he x
    have := htk e he
    generalize e.2 = pc at this
    cases pc <;> first | exact this.elim | exact ⟨rfl, rfl, rfl, rfl, trivial⟩
  refine Inv.of_pipeInv (fun ps hps => ?_) (by simp [hr]) fun e he => (hq e he 0).2.2.2.2
  obtain ⟨h1, h2, h3⟩ := hp ps hps
  rw [countTasks_eq_zero s _ fun e he => (hq e he _).1, countTasks_eq_zero s _ fun e he => (hq e he _).2.1,
    countTasks_eq_zero s _ fun e he => (hq e he _).2.2.1,
    show sumPending s ps.id = 0 from sum_map_eq_zero s.tasks _ fun e he => (hq e he _).2.2.2.1]
  exact ⟨by simp [h1, h2], by simp [h2], by simp [h2, h3], by simp [h2, hr]⟩

/-- every grant of the scheduler, to any task, preserves well-formedness and the invariant -/
theorem inv_step (s : RpqSt) (t : String) (hw : WellFormed s) (hi : Inv s) :
    WellFormed (s.step t).1 ∧ Inv (s.step t).1 := by
  cases ht : s.task? t with
  | none =>
    simp only [RpqSt.step, ht]
    exact ⟨hw, hi⟩
  | some pc =>
    have hok := hi.2.2 _ (s.task?_mem t pc ht)
    cases pc with
    | finished r =>
      simp only [RpqSt.step, ht]
      exact ⟨hw, hi⟩
    | sendStart p item =>
      -- the first exits of the three producers: queue closed, slot dead (`frame_finish`: the task ends with no share)
      simp only [RpqSt.step, ht]
      split
      · exact frame_finish hw hi ht
      · split
        · exact frame_finish hw hi ht
        · rename_i ps hps
          refine frame_pipe hw hi ht hps rfl fun _ => ?_
          simp only [own_share, *]
          exact fun h => h.reserve 1
    | trySendStart p item =>
      simp only [RpqSt.step, ht]
      split
      · exact frame_finish hw hi ht
      · split
        · exact frame_finish hw hi ht
        · rename_i ps hps
          split
          · refine frame_pipe hw hi ht hps rfl fun _ => ?_
            simp only [own_share, *]
            exact fun h => (h.reserve 1).write item
          · exact frame_finish hw hi ht
    | batchStart p items =>
      simp only [RpqSt.step, ht]
      split
      · exact frame_finish hw hi ht
      · split
        · exact frame_finish hw hi ht
        · rename_i ps hps
          split
          · exact frame_finish hw hi ht
          -- `pcOk` of the new pc `batchReserved`: nothing sent yet, all items to go make up the number reserved; `zero` starts false
          · refine frame_pipe hw hi ht hps rfl (fun _ => ?_) (hok := ⟨Nat.zero_add _, rfl⟩)
            simp only [own_share, *]
            exact fun h => h.reserve _
    | sendReserved p item =>
      simp only [RpqSt.step, ht]
      split
      · next hnone => vac_none s hw t ht p hnone
      · rename_i ps hps
        split
        · refine frame_pipe hw hi ht hps rfl fun _ => ?_
          simp only [own_share, *]
          exact fun h => h.write item
        · exact ⟨hw, hi⟩
    | popTaken p item | tryPopTaken p item =>
      simp only [RpqSt.step, ht]
      split
      · next hnone => vac_none s hw t ht p hnone
      · rename_i ps hps
        refine frame_pipe hw hi ht hps rfl fun hH => ?_
        simp only [own_share, *]
        exact fun h => h.uncount hH
    | sendWritten p | trySendWritten p | batchWritten p n items sent zero =>
      simp only [RpqSt.step, ht]
      split
      · next hnone => vac_none s hw t ht p hnone
      · rename_i ps hps
        refine frame_pipe hw hi ht hps rfl (fun hH => ?_) (hok := hok)
        simp only [own_share, *]
        exact fun h => h.count hH
    | batchReserved p n items sent zero | batchCounted p n items sent zero =>
      -- at `batchReserved`, `hok` also says `zero = false`: the flag a task carries on from there is its share of the token
      simp only [pcOk] at hok
      simp only [RpqSt.step, ht]
      split
      · next hnone => vac_none s hw t ht p hnone
      · rename_i ps hps
        split
        · rename_i item rest
          split
          · refine frame_pipe hw hi ht hps rfl (fun _ => ?_) (hok := by simp [pcOk] at hok ⊢ <;> omega)
            simp only [own_share, *]
            rw [show (n : Int) - ↑(sent + 1) + 1 = n - sent by omega]
            exact fun h => h.write item
          · refine frame_pipe hw hi ht hps rfl fun _ => ?_
            simp only [own_share, *]
            exact fun h => h.release
        · refine frame_pipe hw hi ht hps rfl fun _ => ?_
          simp only [own_share, *]
          exact fun h => h.release
    | sendCounted p prev | trySendCounted p prev | batchRolledBack p items sent zero | popDecremented p item prev
    | tryPopDecremented p item prev =>
      -- the re-arm cannot fail: this task holds `p`'s only token, so `p` is not on the ready list, which therefore has room
      -- (`arm_succeeds`)
      simp only [RpqSt.step, ht]
      split
      · rename_i hc
        simp only [arm_succeeds s hw hi t _ ht p (by simp [holdsToken, hc]), Option.getD_some]
        refine frame_arm hw hi ht fun x => ⟨rfl, rfl, ?_, rfl⟩
        simp [holdsToken, hc]
      · rename_i hc
        refine frame_finish hw hi ht fun x => ⟨rfl, rfl, ?_, rfl⟩
        simp [holdsToken, hc]
    | popStart | tryPopStart =>
      simp only [RpqSt.step, ht, popRecv]
      split
      · exact frame_ready hw hi ht rfl (fun _ h => h) trivial (fun _ => ⟨rfl, rfl, rfl⟩) fun _ => rfl
      · rename_i p rest hr
        refine frame_ready hw hi ht rfl (fun _ h => by cases h) trivial (fun _ => ⟨rfl, rfl, rfl⟩) fun x => ?_
        rw [hr, List.count_cons]
        cases h : p == x <;> simp [holdsToken, h]
    | popGotSlot p | tryPopGotSlot p =>
      simp only [RpqSt.step, ht]
      split
      · rename_i ps hps
        split
        · rename_i item rest hch
          refine frame_pipe hw hi ht hps rfl fun _ => ?_
          simp only [own_share, *]
          exact fun h => h.take hch
        · rename_i hch
          exact absurd hch (holder_chan_ne_nil s hi t _ ht p ps hps (beq_self_eq_true p) rfl)
      · next hnone => vac_none s hw t ht p hnone

/-- `reserved_count >= queued_count` at all times (the code's documented invariant) -/
theorem queued_le_reserved (s : RpqSt) (hi : Inv s) (ps : PipeSt) (hps : ps ∈ s.pipes) : ps.queued ≤ ps.reserved := by
  obtain ⟨_, _, h3, h4, _⟩ := hi.1 ps hps
  have : 0 ≤ sumPending s ps.id := sum_nonneg_of_forall _ fun x hx => by
    obtain ⟨e, he, rfl⟩ := List.mem_map.1 hx
    exact h4 e he
  omega

/-- hence the invariant holds after ANY schedule -/
theorem inv_reachable (s : RpqSt) (hw : WellFormed s) (h0 : Initial s) (sched : List String) :
    Inv (sched.foldl (fun st t => (st.step t).1) s) ∧ WellFormed (sched.foldl (fun st t => (st.step t).1) s) := by
  exact List.foldlRecOn (motive := fun st => Inv st ∧ WellFormed st) sched _ ⟨inv_initial s h0, hw⟩
    fun st h t _ => (inv_step st t h.2 h.1).symm

/-- at most one ready-list entry per pipe, so the ready list never overflows: the re-arm / arm sends in
`send`, `try_send`, `try_send_batch`, `pop` never park (and the spin loops never spin) -/
theorem ready_never_overflows (s : RpqSt) (hw : WellFormed s) (hi : Inv s) : s.ready.length ≤ s.pipes.length := by
  simpa using (List.nodup_iff_count.2 (ready_count_le_one s hi)).length_le_of_subset
    fun x hx => s.pipe?_isSome_mem_ids x (hi.2.1 x hx)

theorem arm_never_blocks (s : RpqSt) (hw : WellFormed s) (hi : Inv s) (p : Nat) (hp : (s.pipe? p).isSome)
    (hfree : s.ready.count p = 0) : (s.pushReady p).isSome := by
  simp [RpqSt.pushReady, arm_ok s hw hi p hp hfree]

/-- NO LOST WAKE-UP: whenever a committed item is queued on a pipe, either the pipe is on the ready list or
some task is in the middle of an operation that holds its token (and will put it back / hand it on). -/
theorem no_lost_wakeup (s : RpqSt) (hw : WellFormed s) (hi : Inv s) (ps : PipeSt) (hps : ps ∈ s.pipes)
    (hq : ps.queued ≥ 1) :
    ps.id ∈ s.ready ∨ ∃ e ∈ s.tasks, holdsToken ps.id e.2 = true := by
  have h5 := (hi.1 ps hps).2.2.2.2.1
  simp only [hq, if_true, tokens] at h5
  by_cases hc : 0 < s.ready.count ps.id
  · exact Or.inl (List.count_pos_iff.1 hc)
  · exact Or.inr (exists_of_countTasks_pos s _ (by omega))

/-- in particular: if every task is idle (not started, finished, or a consumer parked in `pop`) and an item is
queued, a parked consumer is NOT blocked — its next grant takes the pipe off the ready list. -/
theorem parked_consumer_proceeds (s : RpqSt) (hw : WellFormed s) (hi : Inv s) (c : String)
    (hc : s.task? c = some .popStart)
    (hidle : ∀ e ∈ s.tasks, ∀ p, holdsToken p e.2 = false)
    (ps : PipeSt) (hps : ps ∈ s.pipes) (hq : ps.queued ≥ 1) :
    (s.step c).2 ≠ .blocked := by
  rcases no_lost_wakeup s hw hi ps hps hq with h | ⟨e, he, h⟩
  · simp only [RpqSt.step, hc, popRecv]
    cases hr : s.ready with
    | nil => simp [hr] at h
    | cons a r => simp
  · rw [hidle e he ps.id] at h
    cases h

/-- no item is stranded: when no task is mid-operation, everything physically in a channel is counted, so by
`no_lost_wakeup` its pipe is on the ready list -/
theorem nonempty_channel_is_ready (s : RpqSt) (hw : WellFormed s) (hi : Inv s)
    (hidle : ∀ e ∈ s.tasks, ∀ p, holdsToken p e.2 = false ∧ uncounted p e.2 = false ∧ takenNotCounted p e.2 = false)
    (ps : PipeSt) (hps : ps ∈ s.pipes) (hne : ps.chan ≠ []) : ps.id ∈ s.ready := by
  have h1 := (hi.1 ps hps).1
  rw [countTasks_eq_zero s (uncounted ps.id) (fun e he => (hidle e he _).2.1),
    countTasks_eq_zero s (takenNotCounted ps.id) (fun e he => (hidle e he _).2.2)] at h1
  have : 0 < ps.chan.length := List.length_pos_iff.2 hne
  rcases no_lost_wakeup s hw hi ps hps (by omega) with h | ⟨e, he, h⟩
  · exact h
  · rw [(hidle e he ps.id).1] at h
    cases h

/-- FIFO and exactly-once per pipe: what consumers have taken out of a pipe, followed by what is still in its
channel, is exactly what was written into it, in write order -/
theorem fifo_exactly_once (s : RpqSt) (hw : WellFormed s) (h0 : Initial s) (hlog : s.accepted = [] ∧ s.takenLog = [])
    (sched : List String) (p : Nat) :
    let s' := sched.foldl (fun st t => (st.step t).1) s
    ((s'.takenLog.filter (·.1 == p)).map (·.2)) ++ ((s'.pipe? p).map (·.chan)).getD []
      = (s'.accepted.filter (·.1 == p)).map (·.2) := by
  have hf : Fifo s := by
    intro x
    cases hps : s.pipe? x with
    | none => simp [hlog.1, hlog.2]
    | some ps => simp [hlog.1, hlog.2, (h0.2.1 ps (s.pipe?_some x ps hps).1).1]
  exact List.foldlRecOn sched _ hf (fun st h t _ => fifo_step st t h) p

/-- `WaitGroup::wait` / `wait_for_connection` as they are now (register, then check): for EVERY interleaving of
the signal with the waiter's steps, once the condition has been signalled two more polls complete the wait. -/
theorem register_first_no_lost_wakeup (evs : List WaitEv) (h : WaitEv.signal ∈ evs) :
    (runRegisterFirst {} (evs ++ [.poll, .poll])).pc = 2 := by
  exact runRegisterFirst_done {} WaitSt.safe_init evs (.inr h)

/-- the pre-fix shape (check, then register) loses the wake-up on this interleaving -/
theorem check_first_counterexample :
    (runCheckFirst {} [.poll, .signal, .poll, .poll, .poll]).pc = 1 := by
  decide

end Rzmq.C08
