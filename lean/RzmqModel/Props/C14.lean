import RzmqModel.Model.Hwm
import RzmqModel.Props.C01
import RzmqModel.Proofs.Hwm
/-!
# C14 — high-water marks bound buffering and SNDTIMEO/RCVTIMEO mean what they say
-/
namespace Rzmq.C14
open Rzmq

/-- the shape of the sources the decision functions stand for (re-extracted on every run): pipe capacity = SNDHWM,
per-pipe ingress capacity = RCVHWM, no cap on SNDTIMEO -1 anywhere, the three branches of send and of recv, DEALER's
pending queue bounded by SNDHWM and fed only with messages that really came back -/
theorem source_shape :
    Gen.pipeCapacityIsSndhwm = 1 ∧ Gen.ingressCapacityIsRcvhwm = 1 ∧ Gen.sndtimeoNoneCappedSites = 0
    ∧ Gen.sndtimeoZeroIsTrySend = 3 ∧ Gen.rcvtimeoZeroIsTryPop = 2 ∧ Gen.rcvtimeoPositiveIsTimeout = 2
    ∧ Gen.rcvtimeoNoneWaits = 2 ∧ Gen.dealerQueuesOnlyReturnedMessages = 1 ∧ Gen.dealerPendingBoundedBySndhwm = 1 := by
  decide

/-- SNDTIMEO 0 on a full connection fails immediately with a would-block error -/
theorem send_zero_fails_at_once (owned : Bool) (room : Option Nat) :
    sendOnFull none owned .zero room = .wouldBlock 0 := by
  rfl

/-- SNDTIMEO d > 0: the call fails (would-block or timeout) exactly when no room appeared within d, and then exactly
at d: never earlier; otherwise it succeeds at the moment room appeared -/
theorem send_positive (owned : Bool) (d : Nat) (room : Option Nat) :
    (∀ t, (sendOnFull none owned (.ms d) room).failedAt = some t → t = d ∧ (∀ r, room = some r → d < r))
    ∧ (∀ t, sendOnFull none owned (.ms d) room = .ok t → room = some t ∧ t ≤ d)
    ∧ sendOnFull none owned (.ms d) room ≠ .waiting := by
  -- the cases: is there room, does it come in time, which flavour of send
  rcases room with _ | r
  · cases owned <;> simp [sendOnFull, CallRes.failedAt, eq_comm]
  · by_cases hr : r ≤ d
    · simp [sendOnFull, CallRes.failedAt, hr, eq_comm]
    · cases owned <;> simp [sendOnFull, CallRes.failedAt, hr, Nat.lt_of_not_le hr, eq_comm]

/-- SNDTIMEO -1 waits until there is room: it never fails, and it returns exactly when room appears -/
theorem send_infinite_waits (owned : Bool) (room : Option Nat) :
    (sendOnFull none owned .infinite room).failedAt = none
    ∧ (∀ t, sendOnFull none owned .infinite room = .ok t ↔ room = some t) := by
  cases room <;> simp [sendOnFull, CallRes.failedAt]

/-- no spurious success, whatever the option: Ok means there was room at that moment -/
theorem send_never_spurious (owned : Bool) (t : Timeo) (room : Option Nat) (at_ : Nat)
    (h : sendOnFull none owned t room = .ok at_) : room = some at_ := by
  cases t with
  | zero => simp [sendOnFull] at h
  | infinite => exact ((send_infinite_waits owned room).2 at_).mp h
  | ms d => exact ((send_positive owned d room).2.1 at_ h).1

/-- the earlier shape (`unwrap_or(30 s)`): with SNDTIMEO -1 a send failed after 30 s although it was told to wait -/
theorem send_infinite_cap_counterexample :
    sendOnFull (some 30000) false .infinite none = .wouldBlock 30000
    ∧ sendOnFull (some 30000) false .infinite (some 45000) = .wouldBlock 30000 := by
  decide

theorem recv_zero_fails_at_once (arrival : Option Nat) : recvOnEmpty .zero arrival = .wouldBlock 0 := by
  rfl

theorem recv_positive (d : Nat) (arrival : Option Nat) :
    (∀ t, (recvOnEmpty (.ms d) arrival).failedAt = some t → t = d ∧ (∀ a, arrival = some a → d < a))
    ∧ (∀ t, recvOnEmpty (.ms d) arrival = .ok t → arrival = some t ∧ t ≤ d) := by
  rw [recvOnEmpty_eq_sendOnFull]
  exact ⟨(send_positive true d arrival).1, (send_positive true d arrival).2.1⟩

theorem recv_infinite_waits (arrival : Option Nat) :
    (recvOnEmpty .infinite arrival).failedAt = none ∧ (∀ t, recvOnEmpty .infinite arrival = .ok t ↔ arrival = some t) := by
  rw [recvOnEmpty_eq_sendOnFull]
  exact send_infinite_waits true arrival

/-- however fast the producer offers and however slowly (or never) the transport accepts bytes: the sending side of a
connection holds at most SNDHWM messages in the pipe, SNDHWM in the egress buffer and one batch in carry-over -/
theorem sender_buffer_bounded (cfg : BatchCfg) (hc : 1 ≤ cfg.count) (evs : List HwmEv) :
    (HwmSend.run { path := { cfg := cfg } } evs).buffered ≤ 2 * max cfg.sndhwm 1 + cfg.count := by
  obtain ⟨h0, h1, h2, h3⟩ := HwmSend.run_path
    (P := fun t => t.cfg = cfg ∧ t.pipe.length ≤ max t.cfg.sndhwm 1 ∧ t.Bounded)
    (fun t t' e st hroom ⟨h0, h1, h2⟩ => ⟨st.cfg.trans h0, st.cfg ▸ st.pipe_le h1 hroom, st.bounded (h0 ▸ hc) h2⟩)
    { path := { cfg := cfg } } evs ⟨rfl, Nat.zero_le _, Nat.zero_le _, Nat.zero_le _⟩
  rw [h0] at h1 h2 h3
  unfold HwmSend.buffered
  omega

/-- a refused send changes nothing: the message is not accepted, not buffered, and everything accepted is still
accounted for in wire order (so it can never be delivered, and nothing accepted is lost) -/
theorem refused_send_changes_nothing (s : HwmSend) (m : Message)
    (hfull : ¬ s.path.pipe.length < max s.path.cfg.sndhwm 1) :
    (s.step (.offer m)).path = s.path := by
  simp [HwmSend.step, hfull]

theorem accepted_still_in_order (cfg : BatchCfg) (evs : List HwmEv) :
    let s := HwmSend.run { path := { cfg := cfg } } evs
    s.path.wire = frameBatch s.path.accepted := by
  exact HwmSend.run_path (P := fun t => t.wire = frameBatch t.accepted) (fun _ _ _ st _ => st.fifo) _ evs rfl

/-- the receiving side: at most RCVHWM messages queued per connection (C01.recv_queue_bounded), plus what one read
decoded -/
theorem receiver_buffer_bounded (r0 : Nat) (evs : List RecvEv) (k : Nat)
    (hread : ∀ msgs, RecvEv.read msgs ∈ evs → msgs.length ≤ k) :
    let r := RecvPath.run { rcvhwm := r0 } evs
    r.queue.length ≤ max r0 1 ∧ r.buffer.length ≤ k := by
  exact ⟨C01.recv_queue_bounded r0 evs, RecvPath.run_buffer _ evs k hread (Nat.zero_le _)⟩

/-- non-vacuity: room in time, room too late, no room and no deadline -/
example : sendOnFull none true (.ms 100) (some 40) = .ok 40 ∧ sendOnFull none true (.ms 100) (some 140) = .timedOut 100
    ∧ sendOnFull none false .infinite none = .waiting := by
  decide

/-- DEALER buffers at most SNDHWM messages in its pending queue plus the one its processor holds, in every reachable state -/
theorem dealer_pending_queue_is_bounded (cap hwm : Nat) (evs : List DealerEv) :
    (Dealer.run currentDealerCfg { cap := cap, hwm := hwm } evs).pending.length
      + (Dealer.run currentDealerCfg { cap := cap, hwm := hwm } evs).hand.toList.length ≤ max hwm 1 + 1 := by
  have h := (Dealer.reachable_inv C01.dealer_source_shape cap hwm evs).bound
  rw [(Dealer.run_params _ _ evs).1] at h
  exact h

/-- a DEALER send that is refused (queue and pipe full) changes nothing: no message is half-queued, none is dropped, the
counter is untouched -/
theorem dealer_refused_send_changes_nothing (d : Dealer) (m : Nat)
    (h : (Dealer.step currentDealerCfg d (.send m)).accepted = d.accepted) :
    Dealer.step currentDealerCfg d (.send m) = { d with refused := d.refused ++ [m] } :=
  (Dealer.send_refused _ d m h).1

/-- … and it is refused only for cause, in every reachable state: the pending queue holds SNDHWM messages, and the message
could not go straight to the pipe (the pipe is full, or older messages are still pending and go first); the pending messages
are real (the counter equals what is pending plus what the processor holds) -/
theorem dealer_refuses_only_at_the_high_water_mark (cap hwm : Nat) (evs : List DealerEv) (m : Nat) :
    let d := Dealer.run currentDealerCfg { cap := cap, hwm := hwm } evs
    (Dealer.step currentDealerCfg d (.send m)).accepted = d.accepted →
      max hwm 1 ≤ d.pending.length ∧ (max cap 1 ≤ d.pipe.length ∨ 0 < d.pending.length + d.hand.toList.length) := by
  intro d h
  have hr := (Dealer.send_refused _ d m h).2
  obtain ⟨hh, hc⟩ : d.hwm = hwm ∧ d.cap = cap := Dealer.run_params _ _ evs
  rw [hh, hc, (Dealer.reachable_inv C01.dealer_source_shape cap hwm evs).count] at hr
  exact hr

end Rzmq.C14
