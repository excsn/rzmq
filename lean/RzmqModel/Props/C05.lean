import RzmqModel.Model.Pair
import RzmqModel.Proofs.Pair
/-!
# C05 — handshakes converge, agree, and give one verdict on compatibility

The pair system of `Model/Pair.lean`: two engines, two in-flight byte queues, schedules = arbitrary lists of
deliveries (any direction next, any number of bytes, one byte at a time … everything at once).
-/
namespace Rzmq.C05
open Rzmq

/-- the pairing relation is symmetric: both endpoints reach the same verdict -/
theorem compat_symmetric (x y : SockName) : typesCompatible x y = typesCompatible y x := by
  have swap : ∀ p ∈ Gen.typeCompat, (p.2, p.1) ∈ Gen.typeCompat := by decide
  rw [Bool.eq_iff_iff]
  simp only [typesCompatible, List.contains_iff_mem]
  exact ⟨swap (x, y), swap (y, x)⟩

/-- the valid ZeroMQ pairings, written down from the pattern RFCs (28/REQREP: REQ–REP, REQ–ROUTER, DEALER–REP, DEALER–ROUTER,
DEALER–DEALER, ROUTER–ROUTER; 29/PUBSUB: PUB–SUB, PUB–XSUB, XPUB–SUB, XPUB–XSUB; 30/PIPELINE: PUSH–PULL; 31/EXPAIR:
PAIR–PAIR) — a specification independent of the source, unlike `Gen.typeCompat`, which is re-extracted from it -/
def zeromqPairing : SockName → SockName → Bool
  | .REQ, .REP | .REP, .REQ | .REQ, .ROUTER | .ROUTER, .REQ => true
  | .DEALER, .REP | .REP, .DEALER | .DEALER, .ROUTER | .ROUTER, .DEALER => true
  | .DEALER, .DEALER | .ROUTER, .ROUTER => true
  | .PUB, .SUB | .SUB, .PUB | .PUB, .XSUB | .XSUB, .PUB => true
  | .XPUB, .SUB | .SUB, .XPUB | .XPUB, .XSUB | .XSUB, .XPUB => true
  | .PUSH, .PULL | .PULL, .PUSH => true
  | .PAIR, .PAIR => true
  | _, _ => false

/-- the verdict of the code's table (as it is in the source now) is the ZeroMQ pairing relation, for every pair of socket
type names including the ones rzmq only meets on the wire and unknown names: a pairing added to or dropped from
`socket_types_compatible` — symmetrically or not — breaks this theorem -/
theorem verdict_is_the_zeromq_pairing (x y : SockName) : typesCompatible x y = zeromqPairing x y := by
  -- every entry of the table is a pairing, and each clause of `zeromqPairing` is in the table
  have hb : ∀ p ∈ Gen.typeCompat, zeromqPairing p.1 p.2 = true := by decide
  have hf : zeromqPairing x y = true → Gen.typeCompat.contains (x, y) = true := by
    unfold zeromqPairing
    split <;> first | decide | nofun
  rw [Bool.eq_iff_iff]
  exact ⟨fun h => hb _ (List.contains_iff_mem.mp h), hf⟩

/-- the greeting layout and the ZMTP/2.0 socket-type codes in the source are the ones of RFC 23/37 and RFC 15 (a specification
independent of the source: the models are written in terms of the re-extracted constants, so a change made consistently to
encoder and decoder would keep every rzmq↔rzmq theorem true while no other ZeroMQ implementation could be talked to) -/
theorem wire_layout_is_zmtp :
    Gen.GREETING_LENGTH = 64 ∧ Gen.SIGNATURE = [0xFF, 0, 0, 0, 0, 0, 0, 0, 0, 0x7F] ∧ Gen.SIGNATURE_LENGTH = 10
    ∧ Gen.VERSION_MAJOR_OFFSET = 10 ∧ Gen.VERSION_MINOR_OFFSET = 11 ∧ Gen.GREETING_VERSION_MAJOR_BYTE = 3
    ∧ Gen.MECHANISM_OFFSET = 12 ∧ Gen.MECHANISM_LENGTH = 20 ∧ Gen.AS_SERVER_OFFSET = 32
    ∧ Gen.PADDING_OFFSET = 33 ∧ Gen.PADDING_LENGTH = 31
    ∧ Gen.asServerFalse = 0 ∧ Gen.asServerTrue = 1
    ∧ Gen.V2_GREETING_LENGTH = 12 ∧ Gen.REVISION_OFFSET = 10 ∧ Gen.V2_SOCKET_TYPE_OFFSET = 11 ∧ Gen.V2_REVISION = 1
    ∧ [SockName.PAIR, .PUB, .SUB, .REQ, .REP, .DEALER, .ROUTER, .PULL, .PUSH].map codeOfName
        = [some 0, some 1, some 2, some 3, some 4, some 5, some 6, some 7, some 8]
    ∧ (List.range 9).map nameFromCode
        = [some .PAIR, some .PUB, some .SUB, some .REQ, some .REP, some .DEALER, some .ROUTER, some .PULL, some .PUSH] := by
  decide

/-- ZMTP/2.0 and ZMTP/3.x use the same table (`socket_types_compatible`) -/
theorem v2_v3_same_table : Gen.v2UsesSharedTable = 1 ∧ Gen.v3ValidatesSocketType = 1 := by
  decide

/-- the inproc table never accepts a pair that ZMTP refuses … -/
theorem inproc_subset_zmtp (x y : SockName) (h : (x, y) ∈ Gen.inprocCompat) : typesCompatible x y = true := by
  have hs : ∀ p ∈ Gen.inprocCompat, Gen.typeCompat.contains p = true := by decide
  exact hs (x, y) h

/-- … but (KNOWN FINDING C05:inproc-table-narrower) it refuses valid pairings that ZMTP accepts: the verdict is
not the same over inproc. Exactly these pairs of rzmq's eight socket types differ. -/
theorem inproc_differs_counterexample :
    ([SockName.PUB, .SUB, .REQ, .REP, .DEALER, .ROUTER, .PULL, .PUSH].flatMap fun x =>
      ([SockName.PUB, .SUB, .REQ, .REP, .DEALER, .ROUTER, .PULL, .PUSH].filter fun y =>
        typesCompatible x y && !Gen.inprocCompat.contains (x, y)).map fun y => (x, y))
    = [(.REQ, .ROUTER), (.REP, .DEALER), (.DEALER, .REP), (.DEALER, .DEALER), (.ROUTER, .REQ), (.ROUTER, .ROUTER)] := by
  decide

/-- what an endpoint has emitted only grows (as a byte string) when it receives more -/
theorem emitted_mono (spec : AbsSpec) (hw : WellBehaved spec) (cfg : Cfg) (x y : Bytes) :
    emitted spec cfg x <+: emitted spec cfg (x ++ y) := by
  exact emitted_mono' hw (List.prefix_append _ _)

/-- Invariant of every schedule: each engine's state is the one reached by feeding it, in one read, exactly the
bytes delivered to it so far; and what is in flight is what the sender emitted minus what was delivered. -/
theorem pair_state_determined (spec : AbsSpec) (hw : WellBehaved spec) (cfgA cfgB : Cfg) (s : List Move)
    (hne : ∀ m ∈ s, m ≠ .eofA ∧ m ≠ .eofB) :
    let p := Pair.run spec cfgA cfgB Pair.start s
    p.a = (onNetworkBytes spec cfgA 0 Eng.init p.recvA).1
    ∧ p.b = (onNetworkBytes spec cfgB 0 Eng.init p.recvB).1
    ∧ p.appA = (onNetworkBytes spec cfgA 0 Eng.init p.recvA).2.app
    ∧ p.appB = (onNetworkBytes spec cfgB 0 Eng.init p.recvB).2.app
    ∧ p.recvB ++ p.ab = emitted spec cfgA p.recvA
    ∧ p.recvA ++ p.ba = emitted spec cfgB p.recvB := by
  intro p
  have h := PairInv.of_eof_free hw cfgA cfgB s hne
  have xA := h.A.resp
  have xB := h.B.resp
  exact ⟨xA.st.symm, xB.st.symm, xA.app.symm, xB.app.symm, xA.out.symm, xB.out.symm⟩

/-- Confluence: whatever the delivery schedule (which direction next, how many bytes), two schedules that
deliver everything end in the same engine states with the same application-visible actions. -/
theorem pair_confluent (spec : AbsSpec) (hw : WellBehaved spec) (cfgA cfgB : Cfg) (s1 s2 : List Move)
    (hne1 : ∀ m ∈ s1, m ≠ .eofA ∧ m ≠ .eofB) (hne2 : ∀ m ∈ s2, m ≠ .eofA ∧ m ≠ .eofB)
    (h1 : (Pair.run spec cfgA cfgB Pair.start s1).ab = [] ∧ (Pair.run spec cfgA cfgB Pair.start s1).ba = [])
    (h2 : (Pair.run spec cfgA cfgB Pair.start s2).ab = [] ∧ (Pair.run spec cfgA cfgB Pair.start s2).ba = []) :
    let p1 := Pair.run spec cfgA cfgB Pair.start s1
    let p2 := Pair.run spec cfgA cfgB Pair.start s2
    p1.a = p2.a ∧ p1.b = p2.b ∧ p1.appA = p2.appA ∧ p1.appB = p2.appB := by
  -- what `s2` has delivered is a complete exchange, forced as every delivery is: `s1` ends in its outcome
  have q2 := PairInv.of_eof_free hw cfgA cfgB s2 hne2
  exact complete_of_exchange hw s1 hne1 h1 q2.forced (q2.exchange h2).1 (q2.exchange h2).2

/-- `sender`'s READY command (6 bytes of length-prefixed name, then the properties) fits `receiver`'s MAXMSGSIZE, and its
identity respects the 255-byte limit -/
def ReadyAdmitted (sender receiver : Cfg) : Prop :=
  sender.routingId.length ≤ 255 ∧
  (receiver.maxMsgSize < 0 ∨ 6 + (encodeProps (localReadyProps sender)).length ≤ receiver.maxMsgSize.toNat)

/-- Compatible NULL endpoints (one listener, one connector, compatible socket types): under EVERY schedule that
delivers everything, both reach the data phase — no mutual wait in the staged greeting — and agree: each
reports exactly the other's socket type and identity, both speak ZMTP/3. -/
theorem null_handshake_converges (spec : AbsSpec) (hw : WellBehaved spec) (cfgA cfgB : Cfg)
    (hA : NullCfg cfgA) (hB : NullCfg cfgB) (hrole : cfgA.isServer = !cfgB.isServer)
    (hcompat : typesCompatible cfgA.sockType cfgB.sockType = true)
    (hrA : ReadyAdmitted cfgA cfgB) (hrB : ReadyAdmitted cfgB cfgA)
    (s : List Move) (hne : ∀ m ∈ s, m ≠ .eofA ∧ m ≠ .eofB)
    (hq : (Pair.run spec cfgA cfgB Pair.start s).ab = [] ∧ (Pair.run spec cfgA cfgB Pair.start s).ba = []) :
    let p := Pair.run spec cfgA cfgB Pair.start s
    p.a.phase = .data ∧ p.b.phase = .data ∧ p.a.version = some .v3 ∧ p.b.version = some .v3
    ∧ p.appA = [handshakeOf cfgB] ∧ p.appB = [handshakeOf cfgA] := by
  intro p
  have hcB : typesCompatible cfgB.sockType cfgA.sockType = true := compat_symmetric _ _ ▸ hcompat
  -- every complete exchange contains the answers to both openings: the full transcripts
  have hF := (forced_nullOpening hw hA hB).round hw (emitted_nullOpening hw hA hB hrB.1 hcompat (by simp [hrole]))
    (emitted_nullOpening hw hB hA hrA.1 hcB (by simp [hrole]))
  obtain ⟨h1, h2, h3, h4⟩ :=
    complete_of_exchange hw s hne hq hF (Resp.null_ok hw hA hB hrB.1 hcompat) (Resp.null_ok hw hB hA hrA.1 hcB)
  exact ⟨congrArg Eng.phase h1, congrArg Eng.phase h2, congrArg Eng.version h1, congrArg Eng.version h2, h3, h4⟩

/-- socket types that are not a valid pairing: neither side ever reports a completed handshake, and once
everything (including end-of-stream) is delivered both are closed — nobody waits forever. -/
theorem incompatible_types_both_fail (spec : AbsSpec) (hw : WellBehaved spec) (cfgA cfgB : Cfg)
    (hA : NullCfg cfgA) (hB : NullCfg cfgB) (hrole : cfgA.isServer = !cfgB.isServer)
    (hcompat : typesCompatible cfgA.sockType cfgB.sockType = false)
    (hrA : ReadyAdmitted cfgA cfgB) (hrB : ReadyAdmitted cfgB cfgA)
    (s : List Move) (hq : (Pair.run spec cfgA cfgB Pair.start s).Settled) :
    let p := Pair.run spec cfgA cfgB Pair.start s
    p.a.phase = .closed ∧ p.b.phase = .closed
    ∧ (∀ x ∈ p.appA, isHandshakeComplete x = false) ∧ (∀ x ∈ p.appB, isHandshakeComplete x = false) := by
  obtain ⟨sA, appA, xA, nA, cA⟩ := Resp.nullOpening_bad hw hA hB hrB.1 hcompat
  obtain ⟨sB, appB, xB, nB, cB⟩ := Resp.nullOpening_bad hw hB hA hrA.1 (compat_symmetric _ _ ▸ hcompat)
  refine settled_of_exchange hw s hq (forced_nullOpening hw hA hB) xA xB nA nB ?_
  -- one of them connects, and the other refuses its READY
  cases hs : cfgB.isServer
  · exact .inl (cA hs)
  · exact .inr (cB (by simpa [hs] using hrole))

/-- mechanism mismatch (NULL against PLAIN): both fail, neither completes -/
theorem mechanism_mismatch_both_fail (spec : AbsSpec) (hw : WellBehaved spec) (cfgA cfgB : Cfg)
    (hA : NullCfg cfgA) (hB : PlainCfg cfgB)
    (s : List Move) (hq : (Pair.run spec cfgA cfgB Pair.start s).Settled) :
    let p := Pair.run spec cfgA cfgB Pair.start s
    p.a.phase = .closed ∧ p.b.phase = .closed
    ∧ (∀ x ∈ p.appA, isHandshakeComplete x = false) ∧ (∀ x ∈ p.appB, isHandshakeComplete x = false) := by
  -- each refuses the other's greeting
  have xA := Resp.greet_mismatch hw cfgA cfgB (by rw [localMech_plain hB]; exact hA.2.1)
  have xB := Resp.greet_mismatch hw cfgB cfgA (by simp [localMech_null hA, mechEnabled, hB.1])
  exact settled_of_exchange hw s hq (forced_greet hw cfgA cfgB) xA xB (noHC_peerError _) (noHC_peerError _) (.inl rfl)

/-- wrong PLAIN credentials: the server never completes; after end-of-stream both are closed -/
theorem wrong_credentials_both_fail (spec : AbsSpec) (hw : WellBehaved spec) (cfgA cfgB : Cfg)
    (hA : PlainCfg cfgA) (hB : PlainCfg cfgB) (hcl : cfgA.isServer = false) (hsrv : cfgB.isServer = true)
    (hu : (cfgA.plainUser.getD []).length ≤ 255) (hp : (cfgA.plainPass.getD []).length ≤ 255)
    (hwrong : cfgB.plainUser ≠ some (cfgA.plainUser.getD []) ∨ cfgB.plainPass ≠ some (cfgA.plainPass.getD []))
    (hmax : cfgB.maxMsgSize < 0)
    (s : List Move) (hq : (Pair.run spec cfgA cfgB Pair.start s).Settled) :
    let p := Pair.run spec cfgA cfgB Pair.start s
    p.a.phase = .closed ∧ p.b.phase = .closed
    ∧ (∀ x ∈ p.appA, isHandshakeComplete x = false) ∧ (∀ x ∈ p.appB, isHandshakeComplete x = false) := by
  -- A answers B's greeting with its HELLO, which B rejects
  have xA := Resp.plain_cli hw hA hB hcl
  have xB := Resp.plain_hello_bad hw hB hA hsrv hu hp hwrong
  have hF := (forced_greet hw cfgA cfgB).round hw xA.out (Resp.plain_srv hw hB hA hsrv).out
  exact settled_of_exchange hw s hq hF xA xB nofun (noHC_peerError _) (.inr rfl)

end Rzmq.C05
