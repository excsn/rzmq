import RzmqModel.Model.RpqInv
import RzmqModel.Proofs.RpqInv
import RzmqModel.Props.C08
import RzmqModel.Proofs.SendTx
/-!
# C09 — dropping a send or recv future is safe at every await point (ready-pipe-queue level)

A future can only be dropped while it is parked at an `.await` (or before its first poll).  In the queue these
are: a consumer parked in `pop` waiting for a ready entry, a producer parked in `send` on a full channel,
and — only if the ready list were full — the arm/re-arm sends.  `RpqSt.cancel` models the drop.  The second half is the
socket level: a message given to `send()` frame by frame, with futures dropped while pending (M15 `SendTx`).
-/
namespace Rzmq.C09
open Rzmq Rzmq.C08

/-- the task is at a point where its future may be dropped: not started, parked waiting for a ready entry,
or parked on a full per-pipe channel -/
def Parked (s : RpqSt) (t : String) : Prop :=
  match s.task? t with
  | some (.sendStart ..) | some (.trySendStart ..) | some (.batchStart ..) | some .popStart | some .tryPopStart => True
  | some (.sendReserved p _) => ∃ ps, s.pipe? p = some ps ∧ ps.cap ≤ ps.chan.length
  | some (.finished _) => True
  | _ => False

/-- the arm / re-arm awaits are never cancellation points: under the invariant they complete immediately -/
theorem arm_points_never_park (s : RpqSt) (t : String) (hw : WellFormed s) (hi : Inv s) (p : Nat) (prev : Int)
    (ht : s.task? t = some (.sendCounted p prev) ∨ (∃ item, s.task? t = some (.popDecremented p item prev))) :
    (s.step t).2 ≠ .blocked := by
  rcases ht with ht | ⟨item, ht⟩
  all_goals
    simp only [RpqSt.step, ht]
    split
    · next hc => simp [arm_succeeds s hw hi t _ ht p (by simp [holdsToken, hc]), finish]
    · simp [finish]

/-- dropping a parked future preserves the queue invariant (reservations are rolled back, no token is lost) -/
theorem cancel_preserves_inv (s : RpqSt) (t : String) (hw : WellFormed s) (hi : Inv s) (hp : Parked s t) :
    WellFormed (s.cancel t).1 ∧ Inv (s.cancel t).1 := by
  unfold Parked at hp
  unfold RpqSt.cancel
  cases ht : s.task? t with
  | none => simp [ht] at hp
  | some pc =>
    simp only [ht] at hp
    cases pc with
    | sendStart p item | trySendStart p item | batchStart p items | popStart | tryPopStart =>
      exact frame_finish hw hi ht
    | finished r => exact ⟨hw, hi⟩
    | sendReserved p item =>
      -- `reserved` and the pending reservations both drop by one
      obtain ⟨ps, hps, _⟩ := hp
      simp only [hps]
      refine frame_pipe hw hi ht hps rfl (fun _ => ?_) (hpc' := .inr rfl) (hprod := fun h => nomatch h)
      simp only [own_share, *]
      exact fun h => h.release
    | _ => exact hp.elim

/-- dropping a parked future loses nothing that was queued and delivers nothing: channels, ready list and
the logs of accepted / taken / returned items are untouched -/
theorem cancel_loses_nothing (s : RpqSt) (t : String) (hp : Parked s t) :
    (s.cancel t).1.ready = s.ready ∧ (s.cancel t).1.accepted = s.accepted ∧ (s.cancel t).1.takenLog = s.takenLog
    ∧ (s.cancel t).1.returned = s.returned
    ∧ ∀ p, ((s.cancel t).1.pipe? p).map (·.chan) = (s.pipe? p).map (·.chan) := by
  exact s.cancel_fields t

/-- a cancelled `send` is all-or-nothing: dropped while parked on the full channel it has written nothing -/
theorem cancelled_send_not_delivered (s : RpqSt) (t : String) (p item : Nat)
    (ht : s.task? t = some (.sendReserved p item)) :
    (s.cancel t).1.accepted = s.accepted ∧ (s.cancel t).1.task? t = some (.finished "cancelled") := by
  refine ⟨(s.cancel_fields t).2.1, ?_⟩
  simp only [RpqSt.cancel, ht]
  split <;> exact RpqSt.task?_setTask _ t _ _ ht

/-- one action of a history: a grant of the scheduler, or the drop of a task's future -/
inductive Act where
  | step (t : String)
  | cancel (t : String)
deriving DecidableEq, Repr

def applyAct (s : RpqSt) : Act → RpqSt
  | .step t => (s.step t).1
  | .cancel t => (s.cancel t).1

/-- every cancellation in the history hits a parked task -/
def CancelsParked : RpqSt → List Act → Prop
  | _, [] => True
  | s, .step t :: rest => CancelsParked (s.step t).1 rest
  | s, .cancel t :: rest => Parked s t ∧ CancelsParked (s.cancel t).1 rest

/-- after any mix of steps and cancellations of parked tasks the invariant still holds, so the no-lost-wake-up
guarantee (C08) survives cancellation -/
theorem inv_with_cancellation (s : RpqSt) (hw : WellFormed s) (h0 : Initial s) (acts : List Act)
    (hc : CancelsParked s acts) :
    Inv (acts.foldl applyAct s) ∧ WellFormed (acts.foldl applyAct s) := by
  have hi := inv_initial s h0
  clear h0
  induction acts generalizing s with
  | nil => exact ⟨hi, hw⟩
  | cons a r ih =>
    cases a with
    | step t =>
      have := inv_step s t hw hi
      exact ih (s.step t).1 this.1 hc this.2
    | cancel t =>
      have := cancel_preserves_inv s t hw hi hc.1
      exact ih (s.cancel t).1 this.1 hc.2 this.2

/-- the code as it is now: DEALER, ROUTER, PUB and PUSH keep the frames until the last one is given and empty the transaction
before they await the hand-over (flags re-extracted from the four socket files on every run) -/
theorem tx_source_shape : dealerTxCfg = goodTx ∧ routerTxCfg = goodTx ∧ pubTxCfg = goodTx ∧ pushTxCfg = goodTx := by decide

/-- whatever the application does — frames, last frames, dropping the pending future of a last frame, send_multipart in
between — the peer reads only messages the application gave, each whole, in the order given (a cancelled one is there or
is not), and no frame ever sits in the pipe without the end of its message -/
theorem cancelled_frame_by_frame_send_is_all_or_nothing (c : TxCfg) (hc : c = dealerTxCfg ∨ c = routerTxCfg ∨ c = pubTxCfg ∨ c = pushTxCfg)
    (evs : List TxEv) :
    let s := ({} : SendTx).run c evs
    s.pipe.Sublist s.offered ∧ s.half = [] ∧ (s.inflight = none → ∀ m ∈ s.pipe, m ∈ s.offered) := by
  obtain rfl := eq_of_or_of_and tx_source_shape hc
  have hi := SendTx.inv_run evs {} SendTx.inv_init
  exact ⟨hi.pipe_sublist, hi.half_nil, fun _ m hm => hi.pipe_sublist.subset hm⟩

/-- … and the socket stays usable: whenever the application is not in the middle of a message the transaction is idle
(the next frame starts a new message, send_multipart does not wait), however many futures were dropped before -/
theorem cancelled_last_frame_leaves_the_socket_usable (c : TxCfg) (hc : c = dealerTxCfg ∨ c = routerTxCfg ∨ c = pubTxCfg ∨ c = pushTxCfg)
    (evs : List TxEv) :
    let s := ({} : SendTx).run c evs
    s.stuck = 0 ∧ (s.cur = [] → s.busy = false) ∧ s.buf = s.cur := by
  obtain rfl := eq_of_or_of_and tx_source_shape hc
  have hi := SendTx.inv_run evs {} SendTx.inv_init
  exact ⟨hi.stuck_zero, fun hcur => Bool.eq_false_iff.2 fun hb => hi.busy_cur hb hcur, hi.buf_cur⟩

/-- the hypotheses are met by a history that does cancel: the cancelled message [1,2] is not delivered, [3] and [4,5] are -/
example :
    let s := ({} : SendTx).run goodTx [.frame 1, .last 2, .cancel, .last 3, .complete, .whole [4, 5]]
    s.pipe = [[3], [4, 5]] ∧ s.offered = [[1, 2], [3], [4, 5]] ∧ s.busy = false := by decide

/-- why the order matters (the shape of a seeded change): a transaction that is emptied only AFTER the await keeps the
frames of a cancelled message, glues them to the next one and makes send_multipart wait for ever -/
theorem keeping_the_transaction_across_the_await_breaks_it :
    let c : TxCfg := { buffersUntilLast := true, closesBeforeAwait := false }
    (({} : SendTx).run c [.frame 1, .last 2, .cancel, .last 3, .complete]).pipe = [[1, 2, 3]]
    ∧ (({} : SendTx).run c [.frame 1, .last 2, .cancel, .whole [9]]).stuck = 1 := by decide

/-- why the frames must wait in the socket (ROUTER before its repair): frames handed to the pipe one by one leave half a
message there when the future of a later frame is dropped — the next message is read glued to it, or, with the permit
still held, send_multipart waits for ever -/
theorem handing_frames_over_one_by_one_breaks_it :
    (({} : SendTx).run { buffersUntilLast := false, closesBeforeAwait := true } [.frame 1, .last 2, .cancel, .whole [9]]).pipe
      = [[1, 9]]
    ∧ (({} : SendTx).run { buffersUntilLast := false, closesBeforeAwait := false } [.frame 1, .last 2, .cancel, .whole [9]]).stuck
      = 1 := by decide

/-- completeness, the other half of all-or-nothing: in a history in which no future is dropped, every message the
application gave completely is in the peer's pipe, in order, as soon as no hand-over is pending — the transaction
machinery itself never loses or merges a message -/
theorem frame_by_frame_send_without_cancellation_delivers_everything (c : TxCfg)
    (hc : c = dealerTxCfg ∨ c = routerTxCfg ∨ c = pubTxCfg ∨ c = pushTxCfg)
    (evs : List TxEv) (hev : ∀ e ∈ evs, e ≠ .cancel) :
    let s := ({} : SendTx).run c evs
    (s.inflight = none → s.pipe = s.offered) ∧ (∀ m, s.inflight = some m → s.offered = s.pipe ++ [m]) := by
  obtain rfl := eq_of_or_of_and tx_source_shape hc
  -- nothing was dropped, so by `SendTx.loss_run` as many messages are in the pipe or pending as were given; the pipe is a
  -- sublist of what was given, hence all of it
  have hi := SendTx.inv_run evs {} SendTx.inv_init
  have hl := SendTx.loss_run evs {} 0 (by simp [SendTx.pendingCount])
  have hc0 : cancelCount evs = 0 := List.countP_eq_zero.2 fun e he => by simpa using hev e he
  have hfly := hi.fly
  constructor
  · intro hn
    simp only [hn] at hfly
    exact hfly.eq_of_length_le (by simpa [SendTx.pendingCount, hn, hc0] using hl)
  · intro m hm
    simp only [hm] at hfly
    obtain ⟨_, o, ho, hs⟩ := hfly
    rw [ho, hs.eq_of_length_le (by simpa [SendTx.pendingCount, hm, hc0, ho] using hl)]

/-- … and a dropped future costs at most the one message it was handing over: the number of given messages that are not
(yet) in the peer's pipe is at most the number of futures dropped, plus the one whose hand-over is pending -/
theorem each_dropped_future_loses_at_most_one_message (c : TxCfg)
    (hc : c = dealerTxCfg ∨ c = routerTxCfg ∨ c = pubTxCfg ∨ c = pushTxCfg) (evs : List TxEv) :
    let s := ({} : SendTx).run c evs
    s.offered.length ≤ s.pipe.length + cancelCount evs + s.pendingCount := by
  obtain rfl := eq_of_or_of_and tx_source_shape hc
  simpa using SendTx.loss_run evs {} 0 (by simp [SendTx.pendingCount])

/-- non-vacuity of both: a history without cancel delivers all three; with one cancel exactly one is missing -/
example :
    (({} : SendTx).run goodTx [.frame 1, .last 2, .complete, .whole [3], .last 4, .complete]).pipe = [[1, 2], [3], [4]]
    ∧ (let s := ({} : SendTx).run goodTx [.frame 1, .last 2, .cancel, .whole [3]]
       s.offered.length = 2 ∧ s.pipe.length = 1 ∧ cancelCount [TxEv.frame 1, .last 2, .cancel, .whole [3]] = 1) := by decide

end Rzmq.C09
