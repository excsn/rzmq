import RzmqModel.Proofs.FrameWise
import RzmqModel.Model.Multipart
import RzmqModel.Proofs.EngineRun
import RzmqModel.Proofs.Multipart
/-!
# C02 — multipart messages stay whole, contiguous and correctly flagged

Three places decide this: the sender normalises the MORE flags of the frames it is given (one call = one message);
the receiving session only ever passes on complete messages, and refuses to assemble more frames than a message
container can carry; the receiving socket hands a message out frame by frame or whole without ever letting another
message — or another peer's attach / detach — get in between.
-/
namespace Rzmq.C02
open Rzmq

/-- which shape of the code the theorems are about: re-extracted from the sources on every run -/
def anonCfg : StashCfg := { keepOnDetach := Gen.anonDeregKeepsStash == 1, mpUsesStash := true }
def dealerCfg : StashCfg :=
  { keepOnDetach := Gen.dealerDetachKeepsStash == 1, mpUsesStash := Gen.dealerRecvMultipartDrainsStash == 1 }
def routerCfg : StashCfg :=
  { keepOnDetach := Gen.routerDetachKeepsStash == 1, mpUsesStash := Gen.routerRecvMultipartDrainsStash == 1 }

theorem current_source_is_the_proved_instance : anonCfg = {} ∧ dealerCfg = {} ∧ routerCfg = {} := by
  decide

theorem senders_normalise :
    Gen.pushSendNormalisesMore = 1 ∧ Gen.pubSendNormalisesMore = 1 ∧ Gen.dealerSendNormalisesMore = 1
    ∧ Gen.routerSendNormalisesMore = 1 := by
  decide

/-- whatever flags the caller left on the frames, one `send_multipart` call puts one well-formed message on the
wire, payloads untouched -/
theorem normalise_whole (fs : List Frame) (h : fs ≠ []) : WholeMsg (normaliseMore fs) := by
  induction fs with
  | nil => exact absurd rfl h
  | cons f rest ih =>
    rw [normaliseMore_cons, wholeMsg_cons]
    cases rest with
    | nil => exact Or.inl ⟨rfl, rfl⟩
    | cons g r => exact Or.inr ⟨by simp [normaliseMore_cons], rfl, ih (by simp)⟩

theorem normalise_keeps_payloads (fs : List Frame) :
    (normaliseMore fs).map (·.payload) = fs.map (·.payload) ∧ (normaliseMore fs).length = fs.length := by
  constructor <;> induction fs with
  | nil => rfl
  | cons f rest ih => simp [normaliseMore_cons, ih]

theorem normalise_idempotent (fs : List Frame) (h : WholeMsg fs) : normaliseMore fs = fs := by
  induction fs with
  | nil => exact absurd rfl h.1
  | cons f rest ih =>
    rw [normaliseMore_cons]
    rcases (wholeMsg_cons f rest).mp h with ⟨rfl, hf⟩ | ⟨hne, hf, hr⟩
    · simp [← hf, normaliseMore]
    · rw [ih hr]
      cases rest with
      | nil => exact absurd rfl hne
      | cons g r => simp [← hf]

/-- the limits fit together: what `send_multipart` accepts, plus the one envelope frame a sending socket may add,
is within what the receiving engine accepts; that, plus the identity frame a receiving socket may prepend, is within
what a message container can hold; DEALER's frame-by-frame buffering stays within the same limit; and the public
API enforces it -/
theorem frame_limits_consistent :
    Gen.MAX_USER_FRAMES_PER_MESSAGE + 1 ≤ Gen.MAX_WIRE_FRAMES_PER_MESSAGE
    ∧ Gen.MAX_FRAMES_PER_MESSAGE = Gen.MAX_WIRE_FRAMES_PER_MESSAGE
    ∧ Gen.MAX_WIRE_FRAMES_PER_MESSAGE + 1 ≤ Gen.FRAMEBATCH_CAPACITY
    ∧ Gen.MAX_DEALER_SEND_BUFFER_PARTS + 1 ≤ Gen.MAX_USER_FRAMES_PER_MESSAGE
    ∧ Gen.sendMultipartChecksFrameCount = 1 := by
  decide

/-- whatever bytes arrive and however they are cut, every message the engine hands to the socket is whole (all
frames but the last carry MORE, the last does not) and within the frame-count limit — never a truncated one -/
theorem engine_delivers_only_whole_messages (spec : AbsSpec) (cfg : Cfg)
    (hlim : Gen.MAX_FRAMES_PER_MESSAGE ≤ cfg.frameLimit) (reads : List (Nat × Bytes)) (m : Message)
    (h : AppAct.deliver m ∈ (feedAll spec cfg Eng.init reads).2.app) :
    WholeMsg m ∧ m.length ≤ Gen.MAX_FRAMES_PER_MESSAGE := by
  -- `hlim` is not needed: the engine's own check comes before the container limit
  exact (BatchInv.init.after reads).whole m h

/-- every message that enters the queues is whole -/
def PutsWhole (evs : List StashEv) : Prop := ∀ p m, StashEv.put p m ∈ evs → WholeMsg m

/-- For every history of registrations, arrivals, detaches and receive calls in either style: the frames handed to
the application so far, followed by the stashed rest, are exactly the messages taken from the queue, in order, each
one contiguous and complete (nothing lost, nothing interleaved, whatever other peers do). -/
theorem stash_contiguous (evs : List StashEv) (h : PutsWhole evs) :
    let s := Stash.run {} evs
    s.returned ++ s.stashed = s.taken.flatten :=
  (StashInv.init.run evs h).contig

/-- every `recv_multipart()` result ends a message: it is a whole message, or the whole rest of the one being read -/
theorem recv_multipart_ends_message (evs : List StashEv) (h : PutsWhole evs) :
    ∀ r ∈ (Stash.run {} evs).mpResults, r ≠ [] ∧ (∀ f, r.getLast? = some f → f.more = false)
      ∧ (∀ f ∈ r.dropLast, f.more = true) := by
  intro r hr
  obtain ⟨h0, h1, h2⟩ := (StashInv.init.run evs h).mp r hr
  exact ⟨h0, h2, h1⟩

/-- what is stashed is always the proper rest of one message: its last frame closes the message -/
theorem stash_is_message_tail (evs : List StashEv) (h : PutsWhole evs) :
    let s := Stash.run {} evs
    s.stashed ≠ [] → (∀ f ∈ s.stashed.dropLast, f.more = true) ∧ (∀ f, s.stashed.getLast? = some f → f.more = false) := by
  intro s hs
  cases hc : s.cache with
  | none => exact absurd (by simp [Stash.stashed, hc]) hs
  | some c =>
    rw [show s.stashed = c by simp [Stash.stashed, hc]]
    exact ((StashInv.init.run evs h).cache c hc).2

/-- messages of one peer are taken in the order they arrived, none skipped: what was taken from a pipe, followed by
what still waits in it, is what was queued into it -/
theorem per_pipe_fifo (evs : List StashEv) (p : Nat) :
    let s := Stash.run {} evs
    ((s.takenFrom.filter (·.1 == p)).map (·.2)) ++ s.queueOf p = (s.accepted.filter (·.1 == p)).map (·.2) :=
  FifoInv.init.run evs p

/-- the earlier shape (`deregister_pipe` cleared the stash): a peer detaching in the middle of a frame-by-frame read
loses the rest of the message — the next frame returned belongs to another message although the last one said MORE -/
theorem detach_cleared_stash_counterexample :
    let a1 : Frame := { payload := [1], more := true, command := false }
    let a2 : Frame := { payload := [2], more := false, command := false }
    let b1 : Frame := { payload := [3], more := false, command := false }
    let s := Stash.run { cfg := { keepOnDetach := false } }
      [.register 1 8, .register 2 8, .put 1 [a1, a2], .put 1 [b1], .recv, .detach 2, .recv]
    s.returned = [a1, b1] := by
  decide

/-- the earlier shape of DEALER/ROUTER (`recv_multipart` ignored the stash): mixing the two styles returned the next
message while the rest of the current one was still stashed -/
theorem mp_ignores_stash_counterexample :
    let a1 : Frame := { payload := [1], more := true, command := false }
    let a2 : Frame := { payload := [2], more := false, command := false }
    let b1 : Frame := { payload := [3], more := false, command := false }
    let s := Stash.run { cfg := { mpUsesStash := false } }
      [.register 1 8, .put 1 [a1, a2], .put 1 [b1], .recv, .recvMultipart]
    s.returned = [a1, b1] ∧ s.stashed = [a2] := by
  decide

/-- the PUSH send path as the proofs need it (re-extracted from the sources on every run) -/
theorem push_source_shape : currentFwCfg = { holdsParts := true, limit := 253 } := by decide

/-- however a PUSH socket is fed - single frames with and without MORE, whole send_multipart calls in between, messages that
grow beyond the frame limit - every unit it hands to a peer is a whole message (MORE on every frame but the last), and a
message is handed to ONE peer: no peer ever sees part of a message, with any number of peers -/
theorem push_routes_only_whole_messages (peers : Nat) (evs : List FwEv) :
    ∀ u ∈ (Fw.run currentFwCfg { peers := peers } evs).got, wholeUnit u.2 = true :=
  (Fw.run_inv currentFwCfg (by rw [push_source_shape]) _ evs ⟨by simp, by simp⟩).2

/-- non-vacuity: two three-frame messages sent frame by frame to two peers arrive as two whole messages, one each -/
example : (Fw.run currentFwCfg { peers := 2 }
    [.send ⟨true, 0, 0⟩, .send ⟨true, 0, 1⟩, .send ⟨false, 0, 2⟩, .send ⟨true, 1, 0⟩, .send ⟨true, 1, 1⟩, .send ⟨false, 1, 2⟩]).got
    = [(0, [⟨true, 0, 0⟩, ⟨true, 0, 1⟩, ⟨false, 0, 2⟩]), (1, [⟨true, 1, 0⟩, ⟨true, 1, 1⟩, ⟨false, 1, 2⟩])] := by decide

/-- the earlier shape (every frame load-balanced on its own): with two peers the frames of one message go to different peers -/
theorem framewise_load_balancing_tears_messages :
    ((Fw.run { holdsParts := false, limit := 253 } { peers := 2 }
      [.send ⟨true, 0, 0⟩, .send ⟨true, 0, 1⟩, .send ⟨false, 0, 2⟩]).got.map (·.1)) = [0, 1, 0] := by decide

/-- … and, as long as no message is discarded for being over-long, every frame the application gave is routed or still
held exactly once: nothing is duplicated, nothing is lost, whatever mix of frame-wise sends and send_multipart calls -/
theorem push_keeps_every_frame_exactly_once (peers : Nat) (evs : List FwEv)
    (h : (Fw.run currentFwCfg { peers := peers } evs).errors = 0) :
    (Fw.run currentFwCfg { peers := peers } evs).out.Perm (fwGiven evs) := by
  simpa [Fw.out] using (Fw.out_run currentFwCfg evs { peers := peers }).2 h

/-- … and whole messages are handed to the peers strictly in turn: the i-th message goes to peer i mod peers -/
theorem push_serves_peers_in_turn (peers : Nat) (evs : List FwEv) (i : Nat)
    (hi : i < (Fw.run currentFwCfg { peers := peers } evs).got.length) :
    ((Fw.run currentFwCfg { peers := peers } evs).got[i]).1 = i % max peers 1 := by
  obtain ⟨-, -, h⟩ := Fw.rr_run currentFwCfg evs { peers := peers } (n := peers) (k := 0) ⟨rfl, rfl, rfl⟩
  simpa [hi] using congrArg (·[i]?) h

/-- non-vacuity: an interleaved history with three peers, nothing discarded -/
example :
    let s := Fw.run currentFwCfg { peers := 3 }
      [.send ⟨true, 0, 0⟩, .sendMultipart [⟨false, 1, 0⟩, ⟨false, 1, 1⟩], .send ⟨false, 0, 1⟩, .send ⟨false, 2, 0⟩]
    s.errors = 0 ∧ s.got.map (·.1) = [0, 1, 2] ∧ s.out = [(1, 0), (1, 1), (0, 0), (0, 1), (2, 0)] := by decide

end Rzmq.C02
