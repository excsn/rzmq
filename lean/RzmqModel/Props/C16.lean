import RzmqModel.Model.Shutdown
import RzmqModel.Proofs.Shutdown
/-!
# C16 — close() and term() always finish and leave nothing running or hanging
-/
namespace Rzmq.C16
open Rzmq

/-- the shape of the sources (re-extracted on every run) -/
theorem source_shape :
    Gen.actorStartedAddsToWaitGroup = 1 ∧ Gen.actorStoppingAlwaysDecrements = 1 ∧ Gen.dropGuardPublishesOnEveryExit = 1
    ∧ Gen.waitGroupRegistersBeforeCheck = 1 ∧ Gen.commandLoopAnswersQueuedCommands = 1
    ∧ Gen.commandLoopUnregistersSocket = 1 ∧ Gen.commandLoopUnregistersInprocNames = 1
    ∧ Gen.commandLoopStopsPatternAtExit = 1 ∧ Gen.queueCloseWakesParkedPop = 1 ∧ Gen.connecterAbortIsFinal = 1
    ∧ Gen.connecterChecksParentRunning = 1 ∧ Gen.handshakeWatchesEvents = 1 ∧ Gen.handshakePollsParentEveryMs = 100
    ∧ 20 ≤ Gen.userOpsGuardedByIsRunning ∧ Gen.termStragglerTimeoutSecs = 10
    ∧ Gen.sessionDrainsMailboxAtExit = 1 := by
  decide

/-- whatever is spawned, however each task ends (return, error, cancellation) and in whatever order: the wait group counts
exactly the tasks that are still alive -/
theorem wait_group_counts_the_living (evs : List AcctEv) :
    (Acct.run {} evs).wg = (Acct.run {} evs).alive.length := by
  exact (Acct.inv_reachable evs).1

/-- the waiter in `term()` is released only when no actor is left -/
theorem term_returns_only_when_all_stopped (evs : List AcctEv) (h : (Acct.run {} evs).waiter.pc = 2) :
    ∃ pre post, evs = pre ++ post ∧ (Acct.run {} pre).alive = [] := by
  obtain ⟨pre, post, he, hidle, _⟩ := waiter_done_first_release_poll evs h
  exact ⟨pre, .poll :: post, he, hidle⟩

/-- … and it IS released once they have all stopped: no wake-up is lost, whenever the waiter was polled before -/
theorem term_returns_when_all_stopped (evs : List AcctEv) (h : (Acct.run {} evs).alive = []) :
    (Acct.run {} (evs ++ [.poll, .poll])).waiter.pc = 2 := by
  rw [show evs ++ [.poll, .poll] = (evs ++ [.poll]) ++ [.poll] by simp, Acct.run_append]
  exact (WaitSt.stepRegisterFirst_pc_two _).2 (Or.inl (Acct.idle_one_poll evs h))

/-- a session accepted while its socket is already closing (its subscription came too late) still learns of it within
100 ms; one that subscribed in time learns at once -/
theorem handshaking_session_always_learns (late : Bool) :
    ∃ t, (sessionInHandshake (!late)).learnsBy = some t ∧ t ≤ 100 := by
  cases late <;> decide

/-- a connecter learns at the latest before its next attempt -/
theorem retrying_connecter_always_learns (late : Bool) (ivl : Nat) :
    ∃ t, (connecterRetrying (!late) ivl).learnsBy = some t ∧ t ≤ ivl := by
  refine ⟨_, connecterRetrying_learnsBy (!late) ivl, ?_⟩
  cases late <;> simp

/-- the earlier shape: an actor that relies on the bus alone and subscribed after the event never finds out -/
theorem bus_only_actor_misses_the_event :
    ({ subscribedBeforeEvent := false, readsBus := true, checksParent := false, pollMs := 0 } : Notice).learnsBy = none := by
  decide

/-- once close()/term() has begun, no API call can hang: every operation returns at once, with an error (or Ok for a
repeated close) -/
theorem closed_socket_never_hangs (phase : LoopPhase) (hp : phase ≠ .running) (op : ApiOp) :
    apiResult (Gen.commandLoopAnswersQueuedCommands == 1) phase op = .error
    ∨ (op = .close ∧ apiResult (Gen.commandLoopAnswersQueuedCommands == 1) phase op = .ok) := by
  have hq : (Gen.commandLoopAnswersQueuedCommands == 1) = true := by decide
  rw [hq]
  -- a data operation fails on `is_running`, a queued command is answered with an error; only a `close` that arrives
  -- during the shutdown is processed by the loop
  cases phase with
  | running => exact absurd rfl hp
  | shuttingDown =>
    by_cases hcl : op = .close
    · exact Or.inr ⟨hcl, hcl ▸ rfl⟩
    · exact Or.inl (by simp [apiResult, hcl])
  | exited => exact Or.inl (by simp [apiResult])

/-- the earlier shape: a control call queued behind the shutdown (a second close(), a close() racing with term()) waited
for ever -/
theorem unanswered_mailbox_hangs : apiResult false .exited .close = .hangs ∧ apiResult false .shuttingDown .bind = .hangs := by
  decide

/-- every socket type whose send() can wait for a first peer treats that wait the same way: Stop reaches it, releases
everybody, and a caller that arrives later sees the flag (re-extracted from the sources on every run) -/
theorem parking_sites_as_proved (ty : BalancedTy) : balancerSite ty = goodSite := by
  cases ty <;> decide

/-- however many tasks are parked in send() on a socket without a peer (SNDTIMEO -1), whenever they arrived, and
whatever arrives afterwards: once the pattern has processed Stop, nobody is parked - in every later state -/
theorem parked_senders_are_released (ty : BalancedTy) (pre post : List ParkEv) :
    (Park.run (balancerSite ty) {} (pre ++ [.stop] ++ post)).parked = [] := by
  rw [parking_sites_as_proved]
  exact Park.after_stop_nobody_parked {} pre post

/-- … and none of them is lost on the way: everyone who called is parked or has returned -/
theorem parked_senders_all_accounted_for (ty : BalancedTy) (evs : List ParkEv) :
    (Park.run (balancerSite ty) {} evs).parked.length + (Park.run (balancerSite ty) {} evs).returned.length
      = (evs.filter ParkEv.isArrive).length := by
  simpa using Park.conservation (balancerSite ty) {} evs

/-- non-vacuity: three parked senders, one Stop, all three are back -/
example : (Park.run (balancerSite .req) {} [.arrive 0, .arrive 1, .arrive 2, .stop]).returned = [0, 1, 2] := by decide

/-- the seeded shape (`notify_one` in `deactivate`): Stop is processed twice per shutdown, so the third parked sender
stays for ever -/
theorem notify_one_strands_the_third_sender :
    (Park.run { reaches := true, wakesAll := false, checksFlag := true } {} [.arrive 0, .arrive 1, .arrive 2, .stop, .stop]).parked = [2] := by
  decide

/-- the earlier shape of REQ (Stop never reached its balancer): even a single parked sender stays for ever -/
theorem unreached_site_strands_everyone (n : List ParkEv) :
    (Park.run { reaches := false, wakesAll := true, checksFlag := true } {} ([.arrive 0] ++ n)).parked ≠ [] := by
  have h := Park.conservation { reaches := false, wakesAll := true, checksFlag := true } {} ([.arrive 0] ++ n)
  intro hempty
  rw [Park.unreached_returned _ rfl {} rfl rfl, hempty] at h
  simp [ParkEv.isArrive, List.filter] at h

/-- after a socket's command loop has ended none of its inproc names is registered any more, whatever else happened:
the name can be bound again -/
theorem names_are_released (evs : List RegEv) (s : Nat) (n : String) (h : RegEv.loopExit s ∈ evs)
    (hlast : ∀ pre post, evs = pre ++ [RegEv.loopExit s] ++ post → RegEv.register s ∉ post) :
    (n, s) ∉ (Registry.run {} evs).inproc := by
  obtain ⟨pre, post, rfl⟩ := List.append_of_mem h
  have hpost := hlast pre post (by simp)
  have := Registry.gone_after_loopExit {} pre post s hpost
  simpa using this.2 n

end Rzmq.C16
