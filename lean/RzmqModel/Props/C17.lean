import RzmqModel.Model.Routing
import RzmqModel.Model.Lifecycle
import RzmqModel.Proofs.Backoff
/-!
# C17 — reconnect back-off arithmetic (both schedules in the code), all (RECONNECT_IVL, RECONNECT_IVL_MAX, attempt)

`coreDelay base max k`: `ReconnectState::on_connection_failure` with `k` earlier failures (milliseconds;
`max = 0` means "not set"). `connDelay maxOpt base inherited j`: the connecter actor's own schedule.
-/
namespace Rzmq.C17
open Rzmq

/-- starts at RECONNECT_IVL (or at the cap, if the cap is smaller) -/
theorem core_first (base max : Nat) : coreDelay base max 0 = if max > 0 then min base max else base := by
  simp [coreDelay_eq]

/-- grows at most geometrically: never more than doubles from one attempt to the next -/
theorem core_at_most_doubles (base max k : Nat) : coreDelay base max (k + 1) ≤ 2 * coreDelay base max k := by
  have := uncapped_succ base k
  rw [coreDelay_eq, coreDelay_eq]
  split <;> omega

/-- … and, while the exponent has not saturated and the cap has not been reached, it doubles EXACTLY: the schedule below the
cap is base, 2·base, 4·base, … (not merely "at most doubling") -/
theorem core_doubles_exactly_below_cap (base max k : Nat) (hk : k < 31)
    (hc : max = 0 ∨ coreDelay base max (k + 1) < max) : coreDelay base max (k + 1) = 2 * coreDelay base max k := by
  have := uncapped_succ base k
  simp only [coreDelay_eq] at hc ⊢
  by_cases hm : 0 < max
  · simp only [if_pos hm] at hc ⊢
    omega
  · simp only [if_neg hm] at hc ⊢
    omega

/-- closed form without a cap: attempt k waits base · 2^min(k, 31) -/
theorem core_closed_form_uncapped (base k : Nat) : coreDelay base 0 k = base * 2 ^ (min k 31) := rfl

/-- never shrinks -/
theorem core_monotone (base max k : Nat) : coreDelay base max k ≤ coreDelay base max (k + 1) := by
  have := uncapped_succ base k
  rw [coreDelay_eq, coreDelay_eq]
  split <;> omega

/-- never exceeds RECONNECT_IVL_MAX when that is set -/
theorem core_capped (base max k : Nat) (h : 0 < max) : coreDelay base max k ≤ max := by
  rw [coreDelay_eq, if_pos h]
  exact Nat.min_le_right ..

/-- no overflow for any attempt number: the result fits 64 bits of milliseconds for i32-millisecond options -/
theorem core_bounded (base max k : Nat) (hb : base < 2 ^ 31) : coreDelay base max k < 2 ^ 63 := by
  have := uncapped_le base k
  rw [coreDelay_eq]
  split <;> omega

/-- exponent saturates at 31: the schedule is constant from attempt 31 on -/
theorem core_saturates (base max k : Nat) (hk : 31 ≤ k) : coreDelay base max k = coreDelay base max 31 := by
  rw [coreDelay_eq, coreDelay_eq, Nat.min_eq_right hk, Nat.min_self]

/-- connecter schedule with a cap: never more than doubles, never above the cap once below it, monotone -/
theorem conn_at_most_doubles (m base inh j : Nat) :
    connDelay (some m) base inh (j + 1) ≤ 2 * connDelay (some m) base inh j
    ∨ connDelay (some m) base inh (j + 1) = connDelay (some m) base inh j := by
  simp only [connDelay, connDouble]
  split
  · left; omega
  · right; rfl


/-- every delay of the connecter's schedule is at most RECONNECT_IVL_MAX when that is set, with no side condition on
RECONNECT_IVL -/
theorem conn_always_capped (m base inh j : Nat) (hm : 0 < m) : connDelay (some m) base inh j ≤ m := by
  induction j with
  | zero =>
    rw [connDelay_zero m base inh hm, coreDelay_eq, if_pos hm]
    exact Nat.min_le_right ..
  | succ j ih =>
    simp only [connDelay, connDouble]
    split <;> omega

theorem conn_capped (m base inh j : Nat) (hm : 0 < m) (hb : base ≤ m) : connDelay (some m) base inh j ≤ m :=
  conn_always_capped m base inh j hm

/-- the connecter's first in-actor wait respects the cap too (fixed: it used to be the raw RECONNECT_IVL even
when RECONNECT_IVL > RECONNECT_IVL_MAX > 0) -/
theorem conn_first_capped (m base inh : Nat) (hm : 0 < m) : connDelay (some m) base inh 0 ≤ m :=
  conn_always_capped m base inh 0 hm

/-- without a cap the connecter retries at a constant RECONNECT_IVL -/
theorem conn_constant_without_cap (base inh j : Nat) : connDelay none base inh j = base := by
  induction j with
  | zero => simp [connDelay, connFastForward, connInitial]
  | succ j ih => simp [connDelay, connDouble, ih]

/-- hand-over consistency: a connecter that inherits `k` failed attempts from the core starts from the very
delay the core computed for attempt `k` (cap set, base within the cap) -/
theorem handover_consistent (m base k : Nat) (hm : 0 < m) (hb : 0 < base) (hbm : base ≤ m) :
    connDelay (some m) base k 0 = coreDelay base m k := by
  -- `hb`, `hbm` are not needed: with RECONNECT_IVL = 0 both delays are 0, above the cap both sit at the cap
  exact connDelay_zero m base k hm

/-- A socket starts its own shutdown only on an event that is about the socket itself (its own close, the
termination of its context, a failure of its own internals) — never because of what another socket or a
peer did: a failed or refused connection of any kind (child actor stopped with an error, connect attempt
failed, an incompatible inproc connector) leaves it running.  (Assumption: the shared event bus does not lag;
see `bus_lag_shuts_down`.) -/
theorem event_result_local (self : Nat) (e : SysEvent) (hlag : e ≠ .busLagged)
    (h : handleEvent self e = .shutDown) : aboutSelf self e = true := by
  cases e with
  | contextTerminating => rfl
  | socketClosing id =>
    simp only [handleEvent, Gen.evSocketClosingOnlyOwn] at h
    simp only [aboutSelf]
    by_cases hid : (id == self) = true
    · exact hid
    · simp [hid] at h
  | actorStopping p er => simp [handleEvent] at h
  | peerIdentityEstablished p => simp [handleEvent] at h
  | connectionAttemptFailed p => simp [handleEvent] at h
  | inprocBindingRequest forMe compatible taken mailboxClosed =>
    simp only [handleEvent, Gen.inprocRefusalKeepsBinder] at h
    cases forMe <;> cases compatible <;> cases taken <;> cases mailboxClosed <;> simp_all [aboutSelf]
  | actorStarted => simp [handleEvent] at h
  | busLagged => exact absurd rfl hlag

/-- a refused (incompatible) inproc connector does not touch the binder (fixed in b9fdf8d) -/
theorem inproc_refusal_is_local (self : Nat) :
    handleEvent self (.inprocBindingRequest true false false false) = .carryOn := by
  simp [handleEvent, Gen.inprocRefusalKeepsBinder]

/-- another socket closing, or any child/connection failure, never shuts this socket down -/
theorem other_sockets_events_are_ignored (self other : Nat) (hne : other ≠ self) (p : Option Nat) (er : Bool) :
    handleEvent self (.socketClosing other) = .carryOn ∧ handleEvent self (.actorStopping p er) = .carryOn
    ∧ handleEvent self (.connectionAttemptFailed self) = .carryOn := by
  refine ⟨?_, rfl, rfl⟩
  simp [handleEvent, Gen.evSocketClosingOnlyOwn, hne]

/-- (suspected defect, not reproduced on the real code: see DESIGN §11 row 23) a lagging receiver on the shared
event bus does shut the socket down — an event caused by the *volume* of other sockets' activity -/
theorem bus_lag_shuts_down (self : Nat) : handleEvent self .busLagged = .shutDown := by
  simp [handleEvent, Gen.busLagShutsSocketDown]

/-- a connecter that ignores the system events of other sockets while it waits starts its next attempt after exactly the
scheduled delay, however many such events arrive and whenever (what the schedule of `connDelay` needs in order to be what
happens, not just what is computed) -/
theorem retry_delay_is_waited_out_if_unrelated_events_are_ignored (delay : Nat) (evs : List (Nat × WaitEv))
    (h : ∀ e ∈ evs, e.2 = .unrelated) : retryWait true delay evs = some delay := by
  induction evs with
  | nil => rfl
  | cons e rest ih =>
    obtain ⟨t, w⟩ := e
    have hw : w = .unrelated := h (t, w) (by simp)
    subst hw
    simp only [retryWait, if_true]
    exact ih (fun e he => h e (by simp [he]))

/-- the code as it is (flag re-extracted on every run): the first event of ANY other socket of the context ends the wait -
in a busy context the retries come as fast as the events, far below RECONNECT_IVL. The full statement of the property ("delays
that start at RECONNECT_IVL") is therefore FALSE for the current sources; this is the known finding
C17:retry-wait-cut-short-by-unrelated-events, replayed on every run (a repair was made and withdrawn: a pinned test of the
repository relies on the early wake-up) -/
theorem current_code_cuts_the_wait_short :
    Gen.connecterWaitsOutItsDelay = 0 ∧ retryWait (Gen.connecterWaitsOutItsDelay == 1) 300 [(5, .unrelated)] = some 5 := by
  decide

end Rzmq.C17
