import RzmqModel.Model.Engine
import RzmqModel.Proofs.EngineRun
/-!
# C07 — no byte stream can crash the engine or make it buffer without bound (engine + wire level)
-/
namespace Rzmq.C07
open Rzmq

/-- MAXMSGSIZE is exact: a frame of exactly the limit is accepted … -/
theorem limit_accepts_exact (m : Nat) (f : Frame) (rest : List UInt8) (h : f.payload.length = m)
    (hok : m + 9 < two64) :
    decodeBuffer (m : Int) (encodeCodec f ++ rest) = .frame f rest
    ∧ decodeSlice (m : Int) (encodeCodec f ++ rest) = .frame f rest
    ∧ decodeBytes (m : Int) (encodeCodec f ++ rest) = .frame f rest := by
  have hb := decodeBuffer_encode' (m : Int) f rest (by omega) (.inr (by rw [Int.toNat_natCast]; omega))
  exact ⟨hb, decodeSlice_eq _ _ ▸ hb, decodeBytes_eq _ _ ▸ hb⟩

/-- … and one of limit+1 bytes is rejected as soon as its header is complete (body bytes are never awaited) -/
theorem limit_rejects_next (m : Nat) (f : Frame) (h : f.payload.length = m + 1) (hok : m + 10 < two64)
    (k : Nat) :
    let hdr := (encodeCodec f).take (if m + 1 ≤ 255 then 2 else 9)
    decodeBuffer (m : Int) (hdr ++ f.payload.take k) = .error
    ∧ decodeSlice (m : Int) (hdr ++ f.payload.take k) = .error
    ∧ decodeBytes (m : Int) (hdr ++ f.payload.take k) = .error
    ∧ peekFrameLen (m : Int) (hdr ++ f.payload.take k) = .error := by
  intro hdr
  -- the header alone announces `m + 1` bytes, whatever follows it
  obtain ⟨fl, hp, -⟩ := parseHdr_codecHeader f (f.payload.take k) (n := m + 1) (by omega)
  have hh : hdr = codecHeader f (m + 1) := by
    show (codecHeader f f.payload.length ++ f.payload).take _ = _
    rw [h]
    exact List.take_left' (codecHeader_length f _)
  rw [← hh] at hp
  have he : exceeds (m : Int) (m + 1) = true := by
    rw [exceeds_natCast]
    exact decide_eq_true (Nat.lt_succ_self m)
  rw [decodeSlice_eq, decodeBytes_eq, decodeBuffer_eq, peekFrameLen_eq, hp]
  simp [he]

/-- whatever bytes a peer sends — not only the output of an honest encoder — a frame the live decoder hands out never exceeds
MAXMSGSIZE, it was cut out of the bytes received (payload ++ rest is a suffix of the input), and it consumed at least the
header: the limit cannot be bypassed by any choice of flags, length field or fragmentation -/
theorem any_decoded_frame_is_within_the_limit (m : Nat) (src : List UInt8) (f : Frame) (rest : List UInt8)
    (h : decodeBuffer (m : Int) src = .frame f rest) :
    f.payload.length ≤ m ∧ f.payload ++ rest <:+ src ∧ rest.length + f.payload.length + 2 ≤ src.length := by
  obtain ⟨fl, hp, he⟩ := decodeBuffer_eq_frame h
  have hl := parseHdr_length hp
  have := hdrLen_bounds fl
  rw [exceeds_natCast, decide_eq_false_iff_not] at he
  rw [List.length_append] at hl
  exact ⟨by omega, parseHdr_suffix hp, by omega⟩

/-- the decoders are total and never reach the `panic` outcome, whatever the bytes -/
theorem decoders_never_panic (max : Int) (src : List UInt8) :
    decodeBuffer max src ≠ .panic ∧ decodeSlice max src ≠ .panic ∧ decodeBytes max src ≠ .panic := by
  rw [decodeSlice_eq, decodeBytes_eq]
  exact ⟨decodeBuffer_ne_panic max src, decodeBuffer_ne_panic max src, decodeBuffer_ne_panic max src⟩

/-- an incomplete frame never makes the live decoder hold more than header + limit bytes -/
theorem needMore_bounded (m : Nat) (src : List UInt8) (h : decodeBuffer (m : Int) src = .needMore) :
    src.length < 9 + m := by
  exact needMore_bounded' m src h

/-- The engine never panics on any input (the 256th frame of a message is a protocol error). -/
theorem engine_never_panics (spec : AbsSpec) (cfg : Cfg) (hlim : Gen.MAX_FRAMES_PER_MESSAGE ≤ cfg.frameLimit)
    (reads : List (Nat × Bytes)) :
    (feedAll spec cfg Eng.init reads).1.panicked = false := by
  exact (BatchInv.init.after reads).calm hlim

/-- the partially assembled message never exceeds the container limit -/
theorem partial_bounded (spec : AbsSpec) (cfg : Cfg) (hlim : Gen.MAX_FRAMES_PER_MESSAGE ≤ cfg.frameLimit)
    (reads : List (Nat × Bytes)) :
    (feedAll spec cfg Eng.init reads).1.partialBatch.length ≤ Gen.MAX_FRAMES_PER_MESSAGE := by
  exact (BatchInv.init.after reads).len

/-- With MAXMSGSIZE = m ≥ 0, between reads an open (unencrypted) connection holds fewer than
`max 64 (9 + max m HANDSHAKE_FRAME_LIMIT)` undecoded bytes: an incomplete greeting or one incomplete frame
(before the data phase the frame-size limit in force is the handshake limit `max m HANDSHAKE_FRAME_LIMIT`);
in the data phase fewer than `9 + m`. (`hlim`: the engine's own frame-count limit is within the frame
container's capacity — without it the model engine can reach the `panicked` state, see
`Rzmq.accumulator_bounded_false`.) -/
theorem accumulator_bounded (spec : AbsSpec) (hw : WellBehaved spec) (cfg : Cfg) (m : Nat)
    (hm : cfg.maxMsgSize = (m : Int)) (hlim : Gen.MAX_FRAMES_PER_MESSAGE ≤ cfg.frameLimit)
    (reads : List (Nat × Bytes)) :
    let s := (feedAll spec cfg Eng.init reads).1
    s.phase ≠ .closed → s.sealed = false →
      s.acc.length < max 64 (9 + max m Gen.HANDSHAKE_FRAME_LIMIT) ∧ (s.phase = .data → s.acc.length < 9 + m) := by
  intro s hc hs
  have hq : Quiescent spec cfg s := quiescent_feedAll hw reads _ Quiescent.init
  exact step_none_bound hm (hq 0) ((BatchInv.init.after reads).calm hlim) hc hs

/-- every error closes the connection, and a closed engine emits nothing more -/
theorem error_closes (spec : AbsSpec) (cfg : Cfg) (t : Nat) (s : Eng) (d : Bytes) (e : ErrClass)
    (h : AppAct.peerError e ∈ (onNetworkBytes spec cfg t s d).2.app) :
    (onNetworkBytes spec cfg t s d).1.phase = .closed := by
  exact run_peerError _ _ h

theorem closed_is_silent (spec : AbsSpec) (cfg : Cfg) (t : Nat) (s : Eng) (d : Bytes) (h : s.phase = .closed) :
    (onNetworkBytes spec cfg t s d).2 = {} ∧ (onNetworkBytes spec cfg t s d).1.phase = .closed := by
  rw [onNetworkBytes_closed h]
  exact ⟨rfl, h⟩

/-- malformed READY metadata is an error value, never a crash: the parser is total and only accepts
well-formed property lists (names valid UTF-8, lengths within the body) -/
theorem parseProps_sound (body : Bytes) (ps : Props) (h : parseProps (body.length + 1) body = some ps) :
    encodeProps ps = body ∧ ∀ p ∈ ps, validUtf8 p.1 = true ∧ p.1.length ≤ 255 :=
  parseProps_sound' _ body ps h

end Rzmq.C07
