import RzmqModel.Model.Linger
import RzmqModel.Props.C03
import RzmqModel.Proofs.Session
import RzmqModel.Proofs.Linger
/-!
# C15 — LINGER governs what happens to accepted messages at close

Proved: when the socket leaves `Lingering` (LINGER 0 at once, a bounded LINGER within LINGER + one tick, LINGER -1 only when
the pipes are empty); closing never delivers a truncated or corrupted message, whatever the moment and however far the last
write got. NOT a theorem of the code as it is (see `linger_loses_what_the_session_holds`): "everything accepted is transmitted
when LINGER allows it" — the sessions stop as soon as close() begins and drop what they hold; the statement is proved under the
two conditions the code would have to meet (`linger_delivers_all_partial`).
-/
namespace Rzmq.C15
open Rzmq

/-- the shape of the sources (re-extracted on every run) -/
theorem source_shape :
    Gen.lingerCheckLooksAtPipesOnly = 1 ∧ Gen.lingerDeadlineChecked = 1 ∧ Gen.lingerNoneHasNoDeadline = 1
    ∧ Gen.lingerZeroDeadlineNow = 1 ∧ Gen.lingerTimedDeadline = 1 ∧ Gen.lingerCheckIntervalMs = 100
    ∧ Gen.lingerDefaultIsZero = 1 ∧ Gen.lingerStartRequiresLingeringPhase = 1 ∧ Gen.lingerArmedAfterPhaseSet = 1
    ∧ Gen.lingerOptionParsedAsGiven = 1 := by
  decide

/-- LINGER 0: the very first check ends the linger phase, whatever is queued -/
theorem linger_zero_is_prompt (tick fuel : Nat) (emptyAt : Option Nat) :
    lingerEnds tick .zero emptyAt (fuel + 1) 0 = some 0 := by
  rw [lingerEnds_zero, Nat.zero_mul]

/-- a bounded LINGER bounds the linger phase: it ends at the first check at or after the deadline at the latest — within
LINGER + one tick — and earlier only because the pipes were empty -/
theorem linger_bounded (tick : Nat) (ht : 0 < tick) (d : Nat) (emptyAt : Option Nat) (fuel : Nat) (hf : d / tick + 1 < fuel) :
    ∃ t, lingerEnds tick (.ms d) emptyAt fuel 0 = some t ∧ t < d + tick
      ∧ (t < d → ∃ e, emptyAt = some e ∧ e ≤ t) := by
  exact lingerEnds_ms tick ht d emptyAt fuel (linger_fuel_enough tick ht d fuel hf)

/-- LINGER -1: the linger phase ends only once the pipes are empty, however long that takes -/
theorem linger_infinite_waits (tick fuel : Nat) (emptyAt : Option Nat) (t : Nat)
    (h : lingerEnds tick .infinite emptyAt fuel 0 = some t) : ∃ e, emptyAt = some e ∧ e ≤ t := by
  exact pipesEmptyAt_true (by simpa [lingerDone] using lingerEnds_done h)

theorem linger_infinite_never_gives_up (tick fuel : Nat) : lingerEnds tick .infinite none fuel 0 = none := by
  cases h : lingerEnds tick .infinite none fuel 0 with
  | none => rfl
  | some t => simpa [lingerDone, pipesEmptyAt] using lingerEnds_done h

/-- whatever LINGER is — −1 included — close() does not hang around once everything is out: if the pipes are empty at time e
the phase ends at the first check at or after e, less than one tick later -/
theorem linger_ends_once_drained (tick : Nat) (ht : 0 < tick) (linger : Timeo) (e fuel : Nat) (hf : e / tick + 1 < fuel) :
    ∃ t, lingerEnds tick linger (some e) fuel 0 = some t ∧ t < e + tick := by
  exact lingerEnds_by tick linger (some e) e (fun now h => by simp [lingerDone, pipesEmptyAt, h]) fuel 0 (by omega)
    ((Nat.zero_add fuel).symm ▸ linger_fuel_enough tick ht e fuel hf)

/-- non-vacuity: LINGER −1, tick 100 ms, pipes empty 250 ms after close(): the phase ends at the check at 300 ms -/
example : lingerEnds 100 .infinite (some 250) 10 0 = some 300 := by decide

/-- Whatever the moment of the close, whatever the session had written by then (any byte position, mid-chunk included) and
however the peer's reads cut the stream: the peer's decoder yields only frames that were really sent, in order — a prefix of
the accepted messages' frames. Closing never produces a truncated, corrupted or invented frame. (No control traffic; frames
within the length/size limits, as in C01.) -/
theorem close_never_truncates (cfg : BatchCfg) (evs : List SendEv) (max : Int) (k : Nat)
    (hctl : ∀ e ∈ evs, ∀ f, e ≠ .control f)
    (hok : ∀ m ∈ (SendPath.run { cfg := cfg } evs).accepted, ∀ f ∈ m, C03.FrameOk f ∧ C03.Admits max f) :
    (decodeAll max (((SendPath.run { cfg := cfg } evs).sentAtClose false).take k)).1
      <+: (SendPath.run { cfg := cfg } evs).accepted.flatten := by
  apply decodeAll_prefix_of_encoded max _ _ (List.forall_mem_flatten.mpr fun m hm f hf => (hok m hm f hf).1)
    (List.forall_mem_flatten.mpr fun m hm f hf => (hok m hm f hf).2)
  -- what is written is a prefix of the framing of the accepted messages
  rw [← C03.frameContiguous_eq, ← frameBatch, ← SendPath.run_stream cfg evs hctl]
  simp only [SendPath.sentAtClose, Bool.false_eq_true, if_false, List.append_assoc]
  exact (List.take_prefix _ _).trans (List.prefix_append _ _)

/-- a session that flushed on stop would have sent exactly the accepted messages -/
theorem linger_delivers_all_partial (cfg : BatchCfg) (evs : List SendEv) (hctl : ∀ e ∈ evs, ∀ f, e ≠ .control f) :
    (SendPath.run { cfg := cfg } evs).sentAtClose true = frameBatch (SendPath.run { cfg := cfg } evs).accepted := by
  simpa [SendPath.sentAtClose] using SendPath.run_stream cfg evs hctl

/-- … but the sessions do not flush, and they stop when close() begins rather than when the linger phase ends -/
theorem sessions_as_they_are :
    Gen.sessionFlushesOnStop = 0 ∧ Gen.sessionStopsOnSocketClosing = 1 ∧ Gen.sessionStopsOnContextTerminating = 1 := by
  decide

/-- The negation of the full statement, with a witness: three messages accepted, one loop pass (the pipe is empty, so the linger
check is satisfied whatever LINGER is), nothing written yet, the session stops: nothing reaches the peer although everything
was accepted. (Known finding C15:linger-sessions-drop-what-they-hold; replayed on the implementation on every run.) -/
theorem linger_loses_what_the_session_holds :
    let m : Message := [{ payload := [1, 2, 3], more := false, command := false }]
    let s := SendPath.run {} [.accept m, .accept m, .accept m, .assemblePipe]
    s.pipe = [] ∧ s.holdsUnsent = true ∧ lingerDone .infinite s.pipe.isEmpty 0 = true
      ∧ s.sentAtClose (Gen.sessionFlushesOnStop == 1) = [] ∧ s.accepted.length = 3 := by
  decide

end Rzmq.C15
