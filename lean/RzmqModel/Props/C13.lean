import RzmqModel.Model.Routing
import RzmqModel.Proofs.Lb
/-!
# C13 — PUSH/DEALER round-robin (load balancer part)

`Lb` models `LoadBalancer { peers, next_idx }`.
-/
namespace Rzmq.C13
open Rzmq

theorem good_init : Lb.Good {} :=
  ⟨List.nodup_nil, Or.inl rfl⟩

theorem good_add (l : Lb) (u : Nat) (h : Lb.Good l) (h0 : l.peers = [] → l.nextIdx = 0) :
    Lb.Good (l.add u) :=
  (Lb.good'_add l u (h.good' h0)).good

inductive LbOp where
  | add (u : Nat) | remove (u : Nat) | next
deriving DecidableEq, Repr

def applyLb (l : Lb) : LbOp → Lb
  | .add u => l.add u
  | .remove u => l.remove u
  | .next => l.next.2

/-- every state reachable from the empty balancer by any history of add/remove/next satisfies the invariant
all the theorems below assume -/
theorem good_reachable (ops : List LbOp) : Lb.Good (ops.foldl applyLb {}) := by
  refine Lb.Good'.good (List.foldlRecOn (motive := Lb.Good') ops applyLb (good_init.good' fun _ => rfl) ?_)
  intro l h op _
  cases op with
  | add u => exact Lb.good'_add l u h
  | remove u => exact Lb.good'_remove l u h
  | next => exact Lb.good'_next l h

theorem good_remove (l : Lb) (u : Nat) (h : Lb.Good l) : Lb.Good (l.remove u) := by
  by_cases he : l.peers = []
  · rwa [Lb.remove_of_not_mem l u (by simp [he])]
  · exact (Lb.good'_remove l u (h.good' (absurd · he))).good

theorem good_next (l : Lb) (h : Lb.Good l) : Lb.Good l.next.2 := by
  by_cases he : l.peers = []
  · rwa [Lb.next_of_nil l he]
  · exact (Lb.good'_next l (h.good' (absurd · he))).good

theorem next_returns_cursor (l : Lb) (h : Lb.Good l) : l.next.1 = l.upNext := by
  by_cases hne : l.peers = []
  · rw [Lb.next_of_nil l hne, Lb.upNext, hne]
    rfl
  · rw [Lb.next_of_lt l (h.lt hne)]
    rfl

/-- round robin: `k` consecutive `get_next_connection` calls return the peers in cyclic list order starting at
the cursor -/
theorem round_robin (l : Lb) (h : Lb.Good l) (hne : l.peers ≠ []) (k : Nat) :
    Lb.nexts k l = (List.range k).map fun j => l.peers[(l.nextIdx + j) % l.peers.length]? :=
  Lb.nexts_eq l (h.lt hne) k

/-- fairness / no starvation: in any window of `n` consecutive selections (n = number of peers) every peer is
selected exactly once -/
theorem each_peer_once_per_round (l : Lb) (h : Lb.Good l) (hne : l.peers ≠ []) (u : Nat) (hu : u ∈ l.peers) :
    (Lb.nexts l.peers.length l).count (some u) = 1 := by
  -- the window is a rotation of the peers, hence a permutation of them, and they are distinct
  rw [Lb.nexts_length l (h.lt hne), List.count_eq_countP, List.countP_map,
    List.countP_congr (q := (· == u)) (by simp), ← List.count_eq_countP, List.perm_append_comm.count_eq,
    List.take_append_drop, h.1.count, if_pos hu]

/-- adding a peer never changes who is served next (it joins at the end of the rotation), and adding a present
peer is a no-op: no message is sent twice because of a re-add -/
theorem add_keeps_cursor (l : Lb) (u : Nat) (h : Lb.Good l) (hne : l.peers ≠ []) :
    (l.add u).upNext = l.upNext := by
  unfold Lb.add Lb.upNext
  split
  · rfl
  · exact List.getElem?_append_left (h.lt hne)

theorem add_idempotent (l : Lb) (u : Nat) : (l.add u).add u = l.add u := by
  by_cases hc : u ∈ l.peers <;> simp [Lb.add, hc]

/-- cursor repair on removal neither skips nor repeats: removing a peer other than the one under the cursor
leaves the next selection unchanged; removing the one under the cursor moves on to its successor -/
theorem remove_no_skip (l : Lb) (u : Nat) (h : Lb.Good l) (v : Nat) (hv : l.upNext = some v) (huv : u ≠ v) :
    (l.remove u).upNext = some v := by
  by_cases hu : u ∈ l.peers
  · obtain ⟨pos, hpos⟩ := List.getElem?_of_mem hu
    have hne : pos ≠ l.nextIdx := fun he => huv (Option.some.inj (hpos.symm.trans (he ▸ hv)))
    have hlt := (List.getElem?_eq_some_iff.1 hpos).1
    have hnlt := (List.getElem?_eq_some_iff.1 hv).1
    rw [Lb.remove_of_getElem? l u pos h.1 hpos, Lb.upNext, List.getElem?_eraseIdx]
    simp only
    by_cases h1 : pos < l.nextIdx
    · rw [if_pos h1, if_neg (by omega), Nat.sub_add_cancel (by omega)]
      exact hv
    · rw [if_neg h1, if_neg (show ¬ l.peers.length - 1 ≤ l.nextIdx by omega), if_pos (show l.nextIdx < pos by omega)]
      exact hv
  · rwa [Lb.remove_of_not_mem l u hu]

theorem remove_current_moves_to_successor (l : Lb) (u : Nat) (h : Lb.Good l) (hu : l.upNext = some u)
    (hlen : 1 < l.peers.length) :
    (l.remove u).upNext = l.peers[(l.nextIdx + 1) % l.peers.length]? := by
  have hlt := (List.getElem?_eq_some_iff.1 hu).1
  rw [Lb.remove_of_getElem? l u l.nextIdx h.1 hu, Lb.upNext, List.getElem?_eraseIdx]
  simp only [Nat.lt_irrefl, if_false]
  by_cases h2 : l.peers.length - 1 ≤ l.nextIdx
  · rw [if_pos h2, if_pos (by omega), show l.nextIdx + 1 = l.peers.length by omega, Nat.mod_self]
  · rw [if_neg h2, if_neg (Nat.lt_irrefl _), Nat.mod_eq_of_lt (by omega)]

/-- a removed peer is never selected again (until re-added) -/
theorem removed_never_selected (l : Lb) (u : Nat) (h : Lb.Good l) (k : Nat) :
    some u ∉ Lb.nexts k (l.remove u) :=
  fun hmem => Lb.not_mem_remove l u h.1 (Lb.mem_of_mem_nexts k _ u hmem)

end Rzmq.C13
