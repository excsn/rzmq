import RzmqModel.Model.Pool
import RzmqModel.Props.C04
import RzmqModel.Proofs.Pool
import RzmqModel.Model.Tracker
import RzmqModel.Proofs.Tracker
/-!
# C20 — the io_uring backend is observably equivalent to the Tokio backend

Both backends drive the same sans-IO engine; what differs between them at the engine's boundary is how the peer's byte
stream is cut into reads (sizes of the provided receive buffers, multishot vs. single receives) and when.  C04 proves the
engine's whole output insensitive to exactly that, which gives the equivalence of everything the engine decides: handshake
outcome, delivered messages and their order, errors.  The backend's own bookkeeping is covered after that: the send-buffer
pool (a shared resource that could be exhausted), the worker's table of in-kernel operations (M12 `Tracker`) and the
descriptor table (`FdTable`).
-/
namespace Rzmq.C20
open Rzmq

/-- Equivalence at the engine boundary: whatever two backends do with the same peer byte stream — any two segmentations,
any two timings of the reads — the engine ends in the same state and emits the same network and application actions
(handshake outcome, delivered messages in order, errors).  (Corollary of C04.) -/
theorem backends_agree_on_any_stream (spec : AbsSpec) (cfg : Cfg) (hw : WellBehaved spec)
    (readsA readsB : List (Nat × Bytes))
    (hsame : (readsA.map (·.2)).flatten = (readsB.map (·.2)).flatten) :
    ((feedAll spec cfg Eng.init readsA).1.eraseClock = (feedAll spec cfg Eng.init readsB).1.eraseClock)
    ∧ (feedAll spec cfg Eng.init readsA).2 = (feedAll spec cfg Eng.init readsB).2 := by
  -- both runs are the single read of the whole stream
  have h := fun reads =>
    C04.engine_outputs_clock_independent spec hw cfg 0 Eng.init (C04.quiescent_init spec cfg) nofun reads
  exact ⟨by rw [(h readsA).2, (h readsB).2, hsame], by rw [(h readsA).1, (h readsB).1, hsame]⟩

/-- every history of acquires, leases, hand-overs, lease drops and releases (in any order, including releases of buffers
that are not in use, double releases and unknown ids) keeps the bookkeeping consistent -/
theorem pool_always_consistent (count cap : Nat) (evs : List PoolEv) :
    (Pool.run (Pool.new count cap) evs).Consistent :=
  (Pool.reachable count cap evs).1

/-- no buffer is ever handed out while it is still in use: an id that is handed out was free, and is marked in use afterwards -/
theorem pool_hands_out_only_free_buffers (count cap : Nat) (evs : List PoolEv) (e : PoolEv) (id : Nat)
    (h : ((Pool.run (Pool.new count cap) evs).step e).2 = some id) :
    id ∈ (Pool.run (Pool.new count cap) evs).free
    ∧ ((Pool.run (Pool.new count cap) evs).step e).1.used[id]? = some true
    ∧ id ∉ ((Pool.run (Pool.new count cap) evs).step e).1.free :=
  (Pool.step_move _ e).some (Pool.reachable count cap evs).1 h

/-- buffers are always given back: once every buffer that was handed out has been released (by the kernel notification or
by the drop of a lease that never reached the worker), the whole pool is free again — sustained traffic and churn cannot
exhaust it -/
theorem pool_never_leaks (count cap : Nat) (evs : List PoolEv)
    (hall : ∀ id, id < count → (Pool.run (Pool.new count cap) evs).used[id]? = some false) :
    (Pool.run (Pool.new count cap) evs).free.length = (Pool.new count cap).used.length := by
  have hlen := Pool.run_used_length (Pool.new count cap) evs
  rw [← hlen]
  refine ConsL.length_free_of_all_unused (Pool.reachable count cap evs).1 fun id hid => hall id ?_
  exact Nat.lt_of_lt_of_le (hlen ▸ hid) (Pool.new_used_length_le count cap)

/-- a lease dropped before it reached the worker gives its buffer back by itself; one that was handed over does not (the
worker releases it on the kernel's notification) -/
theorem dropped_lease_returns_buffer (count cap : Nat) (evs : List PoolEv) (id : Nat)
    (h : (id, false) ∈ ((Pool.new count cap).run evs).leases)
    (huniq : ((((Pool.new count cap).run evs).leases).filter (·.1 == id)).length = 1) :
    id ∈ (((Pool.new count cap).run evs).step (.dropLease id)).1.free :=
  dropped_lease_returns_buffer_partial _ id ((Pool.reachable count cap evs).2 id (List.mem_map_of_mem h)) h huniq

/-- … whereas a lease that was handed over only disappears: its buffer stays in use until the worker releases it -/
theorem handed_over_lease_keeps_its_buffer (p : Pool) (id : Nat) (h : (id, true) ∈ p.leases)
    (huniq : (p.leases.filter (·.1 == id)).length = 1) :
    (p.step (.dropLease id)).1 = { p with leases := p.leases.filter (·.1 != id) } :=
  Pool.step_dropLease h huniq

/-- the zero-copy path is only taken for data that fits the buffer; otherwise the caller falls back to the copying path -/
theorem oversize_never_takes_a_buffer (p : Pool) (len : Nat) (h : p.cap < len) : p.step (.acquire len) = (p, none) := by
  have hz : ¬ len = 0 := by omega
  have hlt : ¬ len ≤ p.cap := by omega
  cases hf : p.free <;> simp [Pool.step, hf, hz, hlt]

/-- the shape of the sources (re-extracted on every run) -/
theorem op_table_shape :
    Gen.uringCloseKeepsAllInflightOps = 1 ∧ Gen.uringCompletionLookupByKind = 1 ∧ Gen.uringNotificationKeepsSlot = 1
    ∧ Gen.uringOrphanCompletionGivesBufferBack = 1 := by
  decide

theorem current_table_is_the_proved_one : currentTrkCfg = { close := .keepAll, byKind := true, keepsSlot := true } := by decide

/-- whatever is submitted on whatever descriptors, whichever descriptors are closed in between, and in whatever order the
kernel posts its completions (zero-copy sends completing twice): no completion is ever processed with the entry of another
operation, and none finds its entry gone -/
theorem completions_reach_their_own_operation (evs : List TrkEv) :
    (TrkSys.run currentTrkCfg {} evs).misattributed = [] ∧ (TrkSys.run currentTrkCfg {} evs).unknown = [] := by
  rw [current_table_is_the_proved_one]
  have h := TrkSys.inv_run TrkSys.inv_init evs
  exact ⟨h.mis, h.unk⟩

/-- the buffers of every operation the kernel still holds are still owned by the table (nothing the kernel reads from or
writes to has been freed), in every reachable state -/
theorem kernel_held_buffers_stay_alive (evs : List TrkEv) :
    ∀ ko ∈ (TrkSys.run currentTrkCfg {} evs).kernel, (TrkSys.run currentTrkCfg {} evs).holds ko = true := by
  rw [current_table_is_the_proved_one]
  exact (TrkSys.inv_run TrkSys.inv_init evs).holds

/-- no two operations in the kernel share a `user_data` -/
theorem user_data_is_unique_among_kernel_held_operations (evs : List TrkEv) :
    ((TrkSys.run currentTrkCfg {} evs).kernel.map (·.key)).Nodup := by
  rw [current_table_is_the_proved_one]
  exact (TrkSys.inv_run TrkSys.inv_init evs).keys

/-- nothing leaks: once the kernel holds nothing, the table is empty -/
theorem table_empties_with_the_kernel (evs : List TrkEv) (h : (TrkSys.run currentTrkCfg {} evs).kernel = []) :
    (∀ k, (TrkSys.run currentTrkCfg {} evs).t.slabGet k = none) ∧ (TrkSys.run currentTrkCfg {} evs).t.notif = [] := by
  rw [current_table_is_the_proved_one] at h ⊢
  exact (TrkSys.inv_run TrkSys.inv_init evs).empty h

/-- after the CloseFd completion for a descriptor, no entry names that descriptor any more: the next connection that is
given the same number finds nothing of its predecessor -/
theorem closed_descriptor_is_not_named (t : Tracker) (fd : Int) (hfd : fd ≠ orphanFd) :
    (∀ k e, (t.closeFd .keepAll fd).1.slabGet k = some e → e.fd ≠ fd)
    ∧ (∀ p ∈ (t.closeFd .keepAll fd).1.notif, p.2.fd ≠ fd) := by
  constructor
  · intro k e h
    rw [Tracker.closeFd_keepAll_slabGet t hfd] at h
    obtain ⟨e0, -, rfl⟩ := Option.map_eq_some_iff.1 h
    exact retag_fd_ne hfd e0
  · intro p hp
    rw [Tracker.closeFd_keepAll hfd] at hp
    obtain ⟨p0, -, rfl⟩ := List.mem_map.1 hp
    exact retag_fd_ne hfd p0.2

/-- … and nothing is dropped at that moment -/
theorem close_drops_nothing (t : Tracker) (fd : Int) (hfd : fd ≠ orphanFd) : (t.closeFd .keepAll fd).2 = [] := by
  rw [Tracker.closeFd_keepAll hfd]

/-- non-vacuity: a history with a close in the middle of everything -/
example : (TrkSys.run currentTrkCfg {} [.submit 5 .send, .submit 5 .read, .submit 5 (.zc 3), .first 2, .submit 6 (.zc 4),
    .closeFd 5, .submit 5 .vec, .final 2, .final 1, .final 0]).kernel.map (·.op.kind) = [.zc 4, .vec] := by decide

/-- the first earlier shape (everything tracked for the descriptor was dropped at CloseFd): the send is still in the kernel,
its buffers are gone -/
theorem dropping_at_close_frees_inflight_buffers :
    let s := TrkSys.run { close := .dropAll, byKind := true, keepsSlot := true } {} [.submit 5 .send, .closeFd 5]
    s.kernel.length = 1 ∧ s.kernel.all (fun ko => !s.holds ko) = true := by
  decide

/-- the second earlier shape (only sends were kept): the key of a forgotten read is given to a new send, and the read's late
completion is processed with the send's entry - whose buffers are then freed while the kernel still reads them -/
theorem keeping_only_sends_misattributes :
    let s := TrkSys.run { close := .keepSends, byKind := true, keepsSlot := true } {} [.submit 5 .read, .closeFd 5, .submit 6 .send, .final 0]
    s.misattributed ≠ [] ∧ s.kernel.all (fun ko => !s.holds ko) = true ∧ s.kernel.length = 1 := by
  decide

/-- the earlier lookup (slab first, whatever the completion is): the notification of a zero-copy send whose key has been
reused releases the buffer of the NEW send -/
theorem slab_first_lookup_misattributes_notifications :
    (TrkSys.run { close := .keepAll, byKind := false, keepsSlot := false } {} [.submit 5 (.zc 3), .first 0, .submit 6 (.zc 4), .final 0]).misattributed ≠ [] := by
  decide

/-- … and looking a notification up where notifications wait was not enough while a send's slab key was vacated at its first
completion: the next zero-copy send is given the same `user_data`, its entry REPLACES the one still waiting, and the first
send's registered buffer is no longer owned by anybody although the kernel still uses it -/
theorem vacated_slot_lets_two_sends_share_a_user_data :
    let s := TrkSys.run { close := .keepAll, byKind := true, keepsSlot := false } {} [.submit 5 (.zc 3), .first 0, .submit 5 (.zc 4), .first 1]
    s.kernel.map (·.key) = [0, 0] ∧ s.kernel.any (fun ko => !s.holds ko) = true := by
  decide

/-- the shape of the io_uring handler's close paths (re-extracted on every run): one RequestClose per descriptor, timers
polled, the socket shut down before the Close operation, shutdown requests name their connection -/
theorem handler_close_shape :
    Gen.uringOneCloseRequestPerDescriptor = 1 ∧ Gen.uringHandlerPollsTimers = 1 ∧ Gen.uringCloseShutsTheSocketDown = 1
    ∧ Gen.uringShutdownRequestNamesItsConnection = 1 := by
  decide

/-- however descriptor numbers are reused and however late a shutdown request arrives: no connection is ever shut down by a
request that was issued for another one -/
theorem shutdown_requests_hit_only_their_connection (evs : List FdEv) :
    (FdTable.run (Gen.uringShutdownRequestNamesItsConnection == 1) {} evs).wronglyClosed = [] := by
  have hg : (Gen.uringShutdownRequestNamesItsConnection == 1) = true := by decide
  rw [hg]
  exact List.foldlRecOn evs _ (motive := fun t : FdTable => t.wronglyClosed = []) rfl
    fun t ht e _ => (t.step_named_wronglyClosed e).trans ht

/-- the earlier shape (the request named only the descriptor number): the connection that was given the number of a closed
one is shut down by the late request of its predecessor - a fresh connection that never carries data -/
theorem unnamed_shutdown_request_hits_the_next_connection :
    (FdTable.run false {} [.registered 5, .closed 5, .registered 5, .shutdownRequest 5 1]).wronglyClosed = [2] := by
  decide

end Rzmq.C20
