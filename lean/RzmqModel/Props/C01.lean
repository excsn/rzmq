import RzmqModel.Model.Session
import RzmqModel.Props.C03
import RzmqModel.Proofs.Session
import RzmqModel.Proofs.Dealer
/-!
# C01 — while connected: every accepted message arrives exactly once, in order, intact

The path of a message: socket pipe → (batch assembly: carry-over / top-up / overflow) → egress buffer (chunks,
partial writes, priority PING/PONG chunks) → bytes on the wire → decoder (C03: any segmentation) → ingress buffer →
per-pipe queue → application.  `SendPath` / `RecvPath` in `Model/Session.lean` are the two session halves; the
theorems quantify over every event sequence (every interleaving of application sends, loop passes, partial writes,
control frames, reads, back-pressure stalls, cancelled sends) and every configuration.
-/
namespace Rzmq.C01
open Rzmq

/-- the structural facts re-extracted from `sessionx/actor.rs` on which the model's shape rests -/
theorem source_shape :
    Gen.topUpOnlyIfCarryEmpty = 1 ∧ Gen.pipeBranchNeedsEmptyCarry = 1 ∧ Gen.overflowGoesToCarry = 2
    ∧ Gen.carryBreakPushesFront = 1 := by
  decide

/-- the carry-over pass neither loses, duplicates nor reorders: batch, then what stays in carry-over, then what
stays in the pipe is exactly carry-over followed by pipe -/
theorem assemble_carry_conserves (cfg : BatchCfg) (pending : Nat) (carry pipe : List Message) :
    let a := assembleFromCarry cfg pending carry pipe
    a.batch ++ a.carry ++ a.pipe = carry ++ pipe := by
  exact (assembleFromCarry_isPass cfg pending carry pipe).conserves

theorem assemble_pipe_conserves (cfg : BatchCfg) (pending : Nat) (first : Message) (pipe : List Message) :
    let a := assembleFromPipe cfg pending first pipe
    a.batch ++ a.carry ++ a.pipe = first :: pipe := by
  exact (assembleFromPipe_isPass cfg pending first pipe).conserves

/-- a pass always makes progress (the oldest message is always taken, however large) -/
theorem assemble_carry_progress (cfg : BatchCfg) (pending : Nat) (carry pipe : List Message)
    (hc : 1 ≤ cfg.count) (hne : carry ≠ []) :
    (assembleFromCarry cfg pending carry pipe).batch ≠ [] := by
  obtain ⟨m, rest, rfl⟩ := List.exists_cons_of_ne_nil hne
  unfold assembleFromCarry
  extract_lets mc r batch total carry1 want drained a
  -- the first message is taken whatever its size, and both drains only ever extend the batch
  have hmc : 0 < mc := maxCount_pos cfg pending hc
  have hr : r = takeWhileFits mc cfg.physical [m] rest (0 + wireSize m) := by
    simp [r, takeWhileFits, hmc]
  obtain ⟨t1, h1, -⟩ := takeWhileFits_spec mc cfg.physical [m] rest (0 + wireSize m)
  obtain ⟨t2, h2, -⟩ := acceptDrained_spec cfg.physical batch drained total
  show a.1 ≠ []
  rw [h2, show batch = _ from hr ▸ h1]
  simp

/-- batches respect the count limit and the HWM budget -/
theorem batch_count_bounded (cfg : BatchCfg) (pending : Nat) (carry pipe : List Message) (first : Message)
    (hc : 1 ≤ cfg.count) :
    (assembleFromCarry cfg pending carry pipe).batch.length ≤ maxCount cfg pending
    ∧ (assembleFromPipe cfg pending first pipe).batch.length ≤ maxCount cfg pending := by
  exact ⟨(assembleFromCarry_isPass cfg pending carry pipe).count hc,
    (assembleFromPipe_isPass cfg pending first pipe).count hc⟩

/-- a batch exceeds the physical byte ceiling only if it is a single message -/
theorem batch_bytes_bounded (cfg : BatchCfg) (pending : Nat) (carry pipe : List Message) :
    let b := (assembleFromCarry cfg pending carry pipe).batch
    (b.map wireSize).sum ≤ cfg.physical ∨ b.length ≤ 1 := by
  exact (assembleFromCarry_isPass cfg pending carry pipe).bytes

/-- a partial or complete write hands exactly the next `min n pending` buffered bytes to the transport -/
theorem advance_writes_prefix (e : Egress) (n : Nat) :
    let e' := Egress.advance (e.chunks.length + 1) e n
    e'.written = e.written ++ e.pendingBytes.take n ∧ e'.pendingBytes = e.pendingBytes.drop n := by
  exact advance_spec _ e n (Nat.le_refl _)

/-- a control frame queued with priority never lands inside a chunk that is partly on the wire: the bytes
already written plus the bytes still to come are the old ones with the frame inserted at a chunk boundary
(right after the chunk being written, or at the very front when none is) -/
theorem priority_at_chunk_boundary (e : Egress) (f : List UInt8) (hoff : e.offset > 0 → e.chunks ≠ []) :
    (e.pushPriority f).pendingBytes =
      (match e.chunks with
       | [] => f
       | h :: rest => if e.offset > 0 then h.data.drop e.offset ++ f ++ (rest.map (·.data)).flatten
                      else f ++ e.pendingBytes) := by
  fun_cases Egress.pushPriority e f with
  | case1 hf =>
    rw [List.isEmpty_iff.mp hf]
    cases hc : e.chunks <;> simp [Egress.pendingBytes, hc]
  | case2 _ ho hc => exact absurd hc (hoff ho)
  | case3 _ ho c rest hc => simp [Egress.pendingBytes, hc, ho]
  | case4 _ ho =>
    have h0 : e.offset = 0 := by omega
    cases hc : e.chunks <;> simp [Egress.pendingBytes, hc, h0]

/-- FIFO / exactly-once on the send side, for every event sequence: the data written or buffered, followed by
carry-over and pipe, is at all times exactly the framing of the accepted messages in acceptance order -/
theorem sendpath_fifo (cfg : BatchCfg) (evs : List SendEv) :
    (SendPath.run { cfg := cfg } evs).wire = frameBatch (SendPath.run { cfg := cfg } evs).accepted := by
  exact SendPath.run_fifo _ evs rfl

/-- what has reached the transport is, at all times, whole chunks plus a prefix of the chunk in progress -/
theorem written_is_chunk_aligned (cfg : BatchCfg) (evs : List SendEv) :
    let e := (SendPath.run { cfg := cfg } evs).egress
    e.written = ((e.done.map (·.data)).flatten) ++ ((e.chunks.head?.map (·.data.take e.offset)).getD []) := by
  exact (SendPath.run_aligned _ evs (by simp [Egress.Aligned])).1

/-- with no control traffic, once everything is written the byte stream on the wire is the framing of exactly the
accepted messages -/
theorem drained_stream (cfg : BatchCfg) (evs : List SendEv) (hctl : ∀ e ∈ evs, ∀ f, e ≠ .control f)
    (hd : let s := SendPath.run { cfg := cfg } evs; s.egress.chunks = [] ∧ s.carry = [] ∧ s.pipe = []) :
    (SendPath.run { cfg := cfg } evs).egress.written = frameBatch (SendPath.run { cfg := cfg } evs).accepted := by
  have h := SendPath.run_stream cfg evs hctl
  simpa [Egress.pendingBytes, hd.1, hd.2.1, hd.2.2, frameBatch_nil] using h

/-- the session never buffers more than SNDHWM messages in its egress buffer plus one batch in carry-over -/
theorem session_buffer_bounded (cfg : BatchCfg) (evs : List SendEv) (hc : 1 ≤ cfg.count) :
    let s := SendPath.run { cfg := cfg } evs
    s.egress.msgCount ≤ max cfg.sndhwm 1 ∧ s.carry.length ≤ cfg.count := by
  have h := SendPath.run_bounded { cfg := cfg } evs hc ⟨Nat.zero_le _, Nat.zero_le _⟩
  rw [SendPath.Bounded, SendPath.run_cfg] at h
  exact h

/-- FIFO / exactly-once on the receive side, for every schedule of reads, batch drains, stalled and cancelled
sends and application receives -/
theorem recvpath_fifo (r0 : Nat) (evs : List RecvEv) :
    let r := RecvPath.run { rcvhwm := r0 } evs
    r.delivered ++ r.queue ++ r.buffer = r.decoded := by
  exact RecvPath.run_fifo _ evs rfl

theorem recv_queue_bounded (r0 : Nat) (evs : List RecvEv) :
    (RecvPath.run { rcvhwm := r0 } evs).queue.length ≤ max r0 1 := by
  exact RecvPath.run_queue { rcvhwm := r0 } evs (Nat.zero_le _)

/-- a well-formed message: not empty, MORE on every frame but the last -/
def MsgOk (m : Message) : Prop := m ≠ [] ∧ (∀ f ∈ m.dropLast, f.more = true) ∧ (∀ f, m.getLast? = some f → f.more = false)

/-- regrouping the frames of well-formed messages gives the messages back -/
theorem regroup_flatten (ms : List Message) (h : ∀ m ∈ ms, MsgOk m) : regroup [] ms.flatten = (ms, []) := by
  induction ms with
  | nil => rfl
  | cons m ms ih =>
    obtain ⟨h1, h2, h3⟩ := h m (List.mem_cons_self ..)
    rw [List.flatten_cons, regroup_msg m [] ms.flatten h1 h2 h3, ih fun m' hm' => h m' (List.mem_cons_of_mem _ hm')]
    rfl

/-- End to end, no control traffic, everything written: however the written stream is cut into reads, the decoder
yields exactly the accepted messages' frames, which regroup to exactly the accepted messages; and whatever the
receive-side schedule, the application gets a prefix of them (all of them once it has drained the queues). -/
theorem end_to_end (cfg : BatchCfg) (evs : List SendEv) (max : Int) (cuts : List (List UInt8))
    (hctl : ∀ e ∈ evs, ∀ f, e ≠ .control f)
    (hd : let s := SendPath.run { cfg := cfg } evs; s.egress.chunks = [] ∧ s.carry = [] ∧ s.pipe = [])
    (hok : ∀ m ∈ (SendPath.run { cfg := cfg } evs).accepted, MsgOk m ∧ ∀ f ∈ m, C03.FrameOk f ∧ C03.Admits max f)
    (hcuts : cuts.flatten = (SendPath.run { cfg := cfg } evs).egress.written) :
    regroup [] (feedChunks max {} cuts).2 = ((SendPath.run { cfg := cfg } evs).accepted, []) := by
  rw [C03.roundtrip_any_cuts max _ cuts (List.forall_mem_flatten.mpr fun m hm f hf => ((hok m hm).2 f hf).1)
    (List.forall_mem_flatten.mpr fun m hm f hf => ((hok m hm).2 f hf).2)
    (by rw [hcuts, drained_stream cfg evs hctl hd, frameBatch, C03.frameContiguous_eq])]
  exact regroup_flatten _ (fun m hm => (hok m hm).1)

theorem delivered_is_prefix (r0 : Nat) (evs : List RecvEv) :
    (RecvPath.run { rcvhwm := r0 } evs).delivered <+: (RecvPath.run { rcvhwm := r0 } evs).decoded := by
  rw [← recvpath_fifo r0 evs, List.append_assoc]
  exact List.prefix_append _ _

def exMsg (n : Nat) : Message := [{ payload := List.replicate n 0, more := false, command := false }]

def exEvs : List SendEv :=
  ([1, 181, 181, 41, 371, 1, 1, 1, 1, 1].map fun n => SendEv.accept (exMsg n))
    ++ [.assemblePipe, .assembleCarry, .assembleCarry, .assembleCarry, .assemblePipe]

set_option maxRecDepth 100000 in
/-- the reordering history found on the real code (scaled down: sizes 1, 181, 181, 41, 371, 1 ×5 with count 8,
logical limit 100, physical limit 400) goes through the carry-over branch that used to top up, and the batches
come out in acceptance order -/
example :
    ((SendPath.run { cfg := { sndhwm := 100, count := 8, logical := 100, physical := 400 } } exEvs).egress.chunks.map
      (·.msgs)) = [3, 1, 3, 3] := by
  decide

/-- the DEALER send path as the proofs need it (re-extracted from the sources on every run) -/
theorem dealer_source_shape : currentDealerCfg = goodDealer := by decide

/-- whatever the order of sends, of the processor's pops and hand-over attempts (successful or not) and of the session taking
messages: what has been accepted is - in acceptance order - what is on the wire, then in the pipe, then in the processor's
hand, then in the pending queue; so the wire is always a prefix of the acceptance log: nothing overtakes, nothing is lost or
doubled on the way from send() to the session -/
theorem dealer_wire_follows_acceptance (cap hwm : Nat) (evs : List DealerEv) :
    (Dealer.run currentDealerCfg { cap := cap, hwm := hwm } evs).line
        = (Dealer.run currentDealerCfg { cap := cap, hwm := hwm } evs).accepted
    ∧ (Dealer.run currentDealerCfg { cap := cap, hwm := hwm } evs).delivered
        <+: (Dealer.run currentDealerCfg { cap := cap, hwm := hwm } evs).accepted := by
  have h := Dealer.reachable_inv dealer_source_shape cap hwm evs
  exact ⟨h.line, h.delivered_prefix⟩

/-- non-vacuity: a message waits in the queue, is popped, fails to be handed over, is re-queued, and still comes out second -/
example : (Dealer.run currentDealerCfg { cap := 1, hwm := 4 }
    [.send 1, .send 2, .send 3, .procPop, .procRoute, .sessionTake, .procPop, .procRoute, .sessionTake, .procPop, .procRoute,
     .sessionTake]).delivered = [1, 2, 3] := by decide

/-- the earlier shape (a send looked at the pipe first, whatever was pending): while the processor holds message 2 in its hand
and the session has just made room, message 3 goes straight into the pipe and overtakes it -/
theorem dealer_send_that_ignores_the_backlog_overtakes :
    (Dealer.run { queuesBehindBacklog := false, requeuesAtFront := true } { cap := 1, hwm := 4 }
      [.send 1, .send 2, .procPop, .sessionTake, .send 3, .sessionTake, .procRoute, .sessionTake]).delivered = [1, 3, 2] := by
  decide

/-- … and a processor that put a message it could not hand over at the BACK of the queue reorders too -/
theorem dealer_requeue_at_the_back_reorders :
    (Dealer.run { queuesBehindBacklog := true, requeuesAtFront := false } { cap := 1, hwm := 4 }
      [.send 1, .send 2, .send 3, .procPop, .procRoute, .sessionTake, .procPop, .procRoute, .sessionTake]).delivered = [1, 3] := by
  decide

/-- nothing accepted is stranded: from EVERY reachable state of the DEALER (any pipe capacity, any SNDHWM, any history of
sends, processor steps and session takes) there is a continuation without further sends - its length is exactly the work
left (3 per pending message, 2 for the one in the processor's hand, 1 per message in the pipe) - after which the wire
carries exactly the acceptance log; the backlog counter can never keep a message in the queue for ever -/
theorem dealer_accepted_messages_can_always_be_drained (cap hwm : Nat) (evs : List DealerEv) :
    let d := Dealer.run currentDealerCfg { cap := cap, hwm := hwm } evs
    ∃ more : List DealerEv, (∀ e ∈ more, e.isSend = false) ∧ more.length = d.todo
      ∧ (Dealer.run currentDealerCfg d more).delivered = d.accepted := by
  obtain ⟨more, h1, h2, h3⟩ := Dealer.drain_exists currentDealerCfg _ _ rfl
  exact ⟨more, h1, h2, h3.trans (Dealer.reachable_inv dealer_source_shape cap hwm evs).line⟩

/-- non-vacuity: a state with a full pipe, a message in the processor's hand and two pending has work left -/
example : (Dealer.run currentDealerCfg { cap := 1, hwm := 4 } [.send 1, .send 2, .send 3, .send 4, .procPop]).todo = 9 := by
  decide

end Rzmq.C01
