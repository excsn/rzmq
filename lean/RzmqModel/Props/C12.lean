import RzmqModel.Model.Routing
import RzmqModel.Proofs.Trie
/-!
# C12 — SUB delivers exactly the messages its current subscriptions match (matcher: full strength)

`Trie` models `SubscriptionTrie`; `absCount p h` is the multiplicity of topic `p` in the abstract multiset of
active subscriptions after the call history `h` (subscribe adds one, unsubscribe removes one if present).
-/
namespace Rzmq.C12
open Rzmq

def trieAfter (h : List SubOp) : Trie := h.foldl Trie.apply Trie.empty

theorem countAt_subscribe (p q : List UInt8) (t : Trie) :
    (t.subscribe p).countAt q = t.countAt q + (if p = q then 1 else 0) :=
  Trie.countAt_subscribe p q t

theorem countAt_unsubscribe (p q : List UInt8) (t : Trie) :
    (t.unsubscribe p).1.countAt q = t.countAt q - (if p = q then 1 else 0) :=
  Trie.countAt_unsubscribe p q t

/-- `unsubscribe` returns true exactly when the last subscription of that topic was removed -/
theorem unsubscribe_result (p : List UInt8) (t : Trie) :
    (t.unsubscribe p).2 = decide (t.countAt p = 1) := by
  induction p generalizing t with
  | nil =>
    obtain ⟨c, ch⟩ := t
    rw [Trie.unsubscribe, Trie.countAt]
    split
    · rfl
    next hc => exact (decide_eq_false (by omega)).symm
  | cons b rest ih =>
    obtain ⟨c, ch⟩ := t
    rw [unsubscribe_cons, Trie.countAt]
    cases childLookup ch b with
    | none => rfl
    | some t' => exact ih t'

/-- the matcher: some subscription stored in the trie is a byte-prefix of the message topic -/
theorem matches_iff (msg : List UInt8) (t : Trie) :
    t.matches msg = true ↔ ∃ p, p <+: msg ∧ 0 < t.countAt p :=
  Trie.matches_iff msg t

/-- Refinement: after ANY history of subscribe/unsubscribe calls over arbitrary byte strings, the count stored
at a topic is its multiplicity in the abstract multiset (N subscribes need N unsubscribes; unsubscribing an
absent topic is a no-op). -/
theorem trie_refines_multiset (h : List SubOp) (p : List UInt8) :
    (trieAfter h).countAt p = absCount p h := by
  rw [trieAfter, foldl_apply_countAt, countAt_empty, absCount]

/-- A message is delivered iff some *currently active* subscription is a byte-prefix of its first frame. -/
theorem sub_delivers_iff (h : List SubOp) (msg : List UInt8) :
    (trieAfter h).matches msg = true ↔ ∃ p, p <+: msg ∧ 0 < absCount p h := by
  simp only [matches_iff, trie_refines_multiset]

/-- subscribe followed by unsubscribe of the same topic is observationally the identity, on ANY trie (not only reachable
ones): every count and therefore every match decision is what it was -/
theorem subscribe_unsubscribe_restores (p : List UInt8) (t : Trie) (msg : List UInt8) :
    ((t.subscribe p).unsubscribe p).1.matches msg = t.matches msg := by
  refine matches_congr (fun q => ?_) msg
  rw [countAt_unsubscribe, countAt_subscribe]
  exact Nat.add_sub_cancel ..

/-- what a SUB socket receives depends only on the multiset of active subscriptions, not on the order or the detours of the
history that produced it: two histories with the same multiplicities match exactly the same messages -/
theorem delivery_depends_only_on_the_multiset (h₁ h₂ : List SubOp) (heq : ∀ p, absCount p h₁ = absCount p h₂)
    (msg : List UInt8) : (trieAfter h₁).matches msg = (trieAfter h₂).matches msg :=
  matches_congr (fun p => by rw [trie_refines_multiset, trie_refines_multiset, heq]) msg

/-- the empty subscription matches everything -/
theorem empty_subscription_matches_all (h : List SubOp) (hp : 0 < absCount [] h) (msg : List UInt8) :
    (trieAfter h).matches msg = true :=
  (sub_delivers_iff h msg).2 ⟨[], List.nil_prefix, hp⟩

/-- unsubscribing something that is not subscribed changes nothing observable -/
theorem unsubscribe_absent_noop (h : List SubOp) (p : List UInt8) (hp : absCount p h = 0) (msg : List UInt8) :
    (trieAfter (h ++ [.unsub p])).matches msg = (trieAfter h).matches msg := by
  refine matches_congr (fun q => ?_) msg
  rw [trieAfter, List.foldl_append]
  show ((trieAfter h).unsubscribe p).1.countAt q = _
  rw [countAt_unsubscribe]
  split
  next hpq => rw [← hpq, trie_refines_multiset, hp]
  · rfl

/-- `get_all_topics` lists exactly the active topics, each once -/
theorem topics_iff (h : List SubOp) (p : List UInt8) :
    p ∈ (trieAfter h).topics ↔ 0 < absCount p h := by
  rw [mem_topics_iff p (trieAfter h) (wf_foldl h _ wf_empty), trie_refines_multiset]

theorem topics_nodup (h : List SubOp) : (trieAfter h).topics.Nodup :=
  topics_nodup_of_wf _ (wf_foldl h _ wf_empty)

-- non-vacuity: the abstract spec on a concrete history
example : absCount [1, 2] [.sub [1, 2], .sub [1, 2], .unsub [1, 2], .unsub [9]] = 1 := by decide

end Rzmq.C12
