import RzmqModel.Model.Wire
import RzmqModel.Proofs.Wire
/-!
# C03 — ZMTP framing round-trips and is independent of how the stream is cut

The property theorems and the two predicates they are stated with (`FrameOk`, `Admits`); the lemmas are in
`Proofs/Wire.lean`.  Every statement is about the
definitions in `Model/Wire.lean`, which are written in terms of the constants re-extracted from the
Rust source on every run (`Gen/Consts.lean`) and are executed against the real encoders/decoders by
`corr wire`.
-/
namespace Rzmq.C03
open Rzmq

/-- The only well-formedness guard: a payload length fits the 64-bit length field (true of every
in-memory buffer on a 64-bit machine). -/
def FrameOk (f : Frame) : Prop := f.payload.length < two64

/-- `max_msg_size` admits the frame (`-1` = unlimited, otherwise `len ≤ max`). -/
def Admits (max : Int) (f : Frame) : Prop := max < 0 ∨ f.payload.length ≤ max.toNat

/-- 0..255 bytes: 2-byte header `[flags, len]`, flags = MORE(1) | COMMAND(4). -/
theorem header_shape_short (f : Frame) (h : f.payload.length ≤ 255) :
    encodeCodec f =
      [(if f.more then 1 else 0) ||| (if f.command then 4 else 0), UInt8.ofNat f.payload.length]
        ++ f.payload := by
  -- the literals are `Gen.ZMTP_FLAG_MORE`, `Gen.ZMTP_FLAG_COMMAND` and `Gen.codecEncodeShortMax` (`h`), by evaluation
  exact congrArg (· ++ f.payload) (codecHeader_short f h)

/-- ≥ 256 bytes: 9-byte header `[flags | LONG(2), big-endian 64-bit length]`. -/
theorem header_shape_long (f : Frame) (h : 255 < f.payload.length) :
    encodeCodec f =
      (((if f.more then 1 else 0) ||| (if f.command then 4 else 0) ||| 2) :: be64 f.payload.length)
        ++ f.payload := by
  -- likewise, with `Gen.ZMTP_FLAG_LONG` = 2
  exact congrArg (· ++ f.payload) (codecHeader_long f h)

/-- the length field is a faithful big-endian 64-bit integer -/
theorem ofBe_be64 (n : Nat) (h : n < two64) : ofBe (be64 n) = n := by
  rw [ofBe_be64_mod, Nat.mod_eq_of_lt h]

theorem be64_length (n : Nat) : (be64 n).length = 8 := by
  rfl

theorem contig_eq_codec (f : Frame) : contigFrame f = encodeCodec f := by
  simp only [contigFrame, encodeCodec, Gen.contigShortMax, Gen.codecEncodeShortMax, Gen.contigMore,
    Gen.contigCommand, Gen.contigLong, Gen.ZMTP_FLAG_MORE, Gen.ZMTP_FLAG_COMMAND, Gen.ZMTP_FLAG_LONG]

theorem hdronly_eq_codec (f : Frame) : encodeHeaderOnly f ++ f.payload = encodeCodec f := by
  simp only [encodeHeaderOnly, encodeCodec, Gen.hdrOnlyShortMax, Gen.codecEncodeShortMax]

theorem split_eq_codec (f : Frame) :
    (writeMsgSplit f).1 ++ ((writeMsgSplit f).2.getD []) = encodeCodec f
    ∧ (writeMsgSplit f).2 = some f.payload := by
  refine ⟨?_, rfl⟩
  simp only [writeMsgSplit, Gen.splitShortMax, Gen.splitShortMoreByte, Gen.splitShortLastByte,
    Gen.splitLongMoreByte, Gen.splitLongLastByte, Gen.splitCommandBit, hdrMoreStyle_eq,
    Option.getD_some, encodeCodec]

theorem frameContiguous_eq (batch : List Message) :
    frameContiguous batch = (batch.flatten.map encodeCodec).flatten := by
  have h : contigFrame = encodeCodec := funext contig_eq_codec
  rw [frameContiguous, h]

/-- the scatter/gather encoder emits the same byte stream as the contiguous one, for every batch
(COMMAND frames included) -/
theorem frameVectored_eq (batch : List Message) :
    (frameVectored batch).flatten = frameContiguous batch := by
  rw [frameContiguous_eq, frameVectored, List.flatten_flatten, List.map_map]
  congr 2
  exact funext vectChunks_flatten

/-- the live decoder reads back exactly the frame that was encoded, whatever follows it -/
theorem decodeBuffer_encode (max : Int) (f : Frame) (rest : List UInt8)
    (hok : FrameOk f) (hmax : Admits max f) :
    decodeBuffer max (encodeCodec f ++ rest) = .frame f rest :=
  decodeBuffer_encode' max f rest hok hmax

/-- the encoding is injective and prefix-free: if the bytes of one frame followed by anything equal the bytes of another
frame followed by anything, the frames and the remainders are the same — no frame's encoding is a proper prefix of
another's, so a byte stream has at most one reading -/
theorem encoding_is_prefix_free (f g : Frame) (r₁ r₂ : List UInt8) (hf : FrameOk f) (hg : FrameOk g)
    (h : encodeCodec f ++ r₁ = encodeCodec g ++ r₂) : f = g ∧ r₁ = r₂ := by
  have h1 := decodeBuffer_encode (-1) f r₁ hf (Or.inl (by decide))
  have h2 := decodeBuffer_encode (-1) g r₂ hg (Or.inl (by decide))
  rw [h, h2] at h1
  injection h1 with h3 h4
  exact ⟨h3.symm, h4.symm⟩

/-- wire size of a frame: payload plus 2 bytes of header up to 255 bytes, plus 9 above -/
theorem encoded_length (f : Frame) :
    (encodeCodec f).length = f.payload.length + (if f.payload.length ≤ 255 then 2 else 9) := by
  show (codecHeader f f.payload.length ++ f.payload).length = _
  rw [List.length_append, codecHeader_length, Nat.add_comm]

theorem decodeSlice_encode (max : Int) (f : Frame) (rest : List UInt8)
    (hok : f.payload.length + 9 < two64) (hmax : Admits max f) :
    decodeSlice max (encodeCodec f ++ rest) = .frame f rest := by
  rw [decodeSlice_eq]
  exact decodeBuffer_encode' max f rest (by omega) hmax

theorem decodeBytes_encode (max : Int) (f : Frame) (rest : List UInt8)
    (hok : f.payload.length + 9 < two64) (hmax : Admits max f) :
    decodeBytes max (encodeCodec f ++ rest) = .frame f rest := by
  rw [decodeBytes_eq]
  exact decodeBuffer_encode' max f rest (by omega) hmax

/-- the length peek announces exactly the encoded size, from the header alone -/
theorem peek_encode (max : Int) (f : Frame) (rest : List UInt8)
    (hok : f.payload.length + 9 < two64) (hmax : Admits max f) :
    peekFrameLen max (encodeCodec f ++ rest) = .total (encodeCodec f).length := by
  obtain ⟨fl, hp, -⟩ := parseHdr_encodeCodec f rest (by omega)
  have hlen := parseHdr_length hp
  rw [List.length_append, List.length_append] at hlen
  have htot : hdrLen fl + f.payload.length = (encodeCodec f).length := by omega
  have hb := hdrLen_bounds fl
  rw [peekFrameLen_eq, hp]
  simp only [not_exceeds max _ hmax, Bool.false_eq_true, if_false, htot]
  rw [if_neg (by omega)]

/-- whole streams: any frame sequence written by any encoder decodes to itself, nothing left over -/
theorem decodeAll_encode (max : Int) (fs : List Frame)
    (hok : ∀ f ∈ fs, FrameOk f) (hmax : ∀ f ∈ fs, Admits max f) :
    decodeAll max (fs.map encodeCodec).flatten = (fs, .more, []) :=
  decodeAll_encode' max fs hok hmax

/-- one `decode` call of the tokio codec on an encoded frame (within the codec's 64 MiB cap) -/
theorem codec_encode (f : Frame) (rest : List UInt8) (hcap : f.payload.length ≤ Gen.CODEC_MAX_FRAME_SIZE) :
    codecDecodeOne .readHeader (encodeCodec f ++ rest) = (some f, false, .readHeader, rest) := by
  have h := codecDecodeOne_agrees (ph := .readHeader) (buf := encodeCodec f ++ rest) rfl
  rw [decodeBuffer_encode' codecMax f rest (Nat.lt_of_le_of_lt hcap (by decide)) (Or.inr hcap)] at h
  exact h.1

/-- Feeding the live decoder a byte stream in *any* segmentation delivers the same frames as feeding it
all at once, ends "closed by a protocol error" in exactly the same cases, and otherwise holds the same
undecoded remainder. -/
theorem cut_independent (max : Int) (chunks : List (List UInt8)) :
    (feedChunks max {} chunks).2 = (feed max {} chunks.flatten).2
    ∧ (feedChunks max {} chunks).1.closed = (feed max {} chunks.flatten).1.closed
    ∧ ((feedChunks max {} chunks).1.closed = false →
        (feedChunks max {} chunks).1.acc = (feed max {} chunks.flatten).1.acc) := by
  cases chunks with
  | nil =>
    simp only [feedChunks, feed, List.flatten_nil, List.append_nil, Bool.false_eq_true, if_false]
    rw [decodeAll_nil]
    exact ⟨rfl, rfl, fun _ => rfl⟩
  | cons c cs => exact feedChunks_spec max (c :: cs) {} rfl (List.cons_ne_nil c cs)

/-- What is delivered from a prefix of a stream is a prefix of what is delivered from the whole stream:
no read boundary (or truncation) ever produces a frame that the full stream would not. -/
theorem decode_prefix_monotone (max : Int) (a b : List UInt8) :
    (decodeAll max a).1 <+: (decodeAll max (a ++ b)).1 :=
  decodeAll_prefix max a b

/-- same for the tokio codec, including a primed prefix: the frames depend only on `pfx ++ bytes` -/
theorem codec_cut_independent (pfx : List UInt8) (chunks : List (List UInt8)) (hne : chunks ≠ []) :
    (codecFeedChunks { pfx := pfx } chunks).2 = (codecFeed {} (pfx ++ chunks.flatten)).2 := by
  rw [codecFeedChunks_frames pfx chunks hne]
  -- one `codecFeed` from the initial state is one `codecDrain` in `readHeader` with fuel for every byte
  exact (codecDrain_eq_decodeAll _ .readHeader _ _ rfl (Nat.le_refl _)).1.symm

/-- round trip through any segmentation (corollary used by C01) -/
theorem roundtrip_any_cuts (max : Int) (fs : List Frame) (chunks : List (List UInt8))
    (hok : ∀ f ∈ fs, FrameOk f) (hmax : ∀ f ∈ fs, Admits max f)
    (hc : chunks.flatten = (fs.map encodeCodec).flatten) :
    (feedChunks max {} chunks).2 = fs := by
  rw [(cut_independent max chunks).1, hc]
  simp only [feed, Bool.false_eq_true, if_false, List.nil_append, decodeAll_encode max fs hok hmax]

example : FrameOk { payload := [1, 2, 3], more := true, command := false }
    ∧ Admits 3 { payload := [1, 2, 3], more := true, command := false } := by
  constructor
  · unfold FrameOk; decide
  · right; decide

end Rzmq.C03
