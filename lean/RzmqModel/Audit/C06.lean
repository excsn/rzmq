import RzmqModel.Props.C06
#print axioms Rzmq.C06.negotiate_sound
#print axioms Rzmq.C06.secure_never_null
#print axioms Rzmq.C06.no_v2_when_secure
#print axioms Rzmq.C06.no_deliver_before_handshake
#print axioms Rzmq.C06.handshake_requires_negotiated_mechanism
#print axioms Rzmq.C06.plain_server_requires_credentials
#print axioms Rzmq.C06.unset_credential_admits_nobody
#print axioms Rzmq.C06.plain_server_without_credentials_rejects
#print axioms Rzmq.C06.plain_client_requires_welcome
#print axioms Rzmq.C06.abstract_mechanism_not_skipped
#print axioms Rzmq.C06.plain_source_shape
#print axioms Rzmq.C06.mechanism_and_command_names_are_the_rfc_ones
