import RzmqModel.Props.C17
#print axioms Rzmq.C17.core_first
#print axioms Rzmq.C17.core_at_most_doubles
#print axioms Rzmq.C17.core_doubles_exactly_below_cap
#print axioms Rzmq.C17.core_closed_form_uncapped
#print axioms Rzmq.C17.core_monotone
#print axioms Rzmq.C17.core_capped
#print axioms Rzmq.C17.core_bounded
#print axioms Rzmq.C17.core_saturates
#print axioms Rzmq.C17.conn_at_most_doubles
#print axioms Rzmq.C17.conn_always_capped
#print axioms Rzmq.C17.conn_capped
#print axioms Rzmq.C17.conn_first_capped
#print axioms Rzmq.C17.conn_constant_without_cap
#print axioms Rzmq.C17.handover_consistent
#print axioms Rzmq.C17.event_result_local
#print axioms Rzmq.C17.inproc_refusal_is_local
#print axioms Rzmq.C17.other_sockets_events_are_ignored
#print axioms Rzmq.C17.bus_lag_shuts_down
#print axioms Rzmq.C17.retry_delay_is_waited_out_if_unrelated_events_are_ignored
#print axioms Rzmq.C17.current_code_cuts_the_wait_short
